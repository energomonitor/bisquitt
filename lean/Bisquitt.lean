-- Root of the `Bisquitt` library: the model, the specifications and the property theorems.
import Bisquitt.Model.Bytes
import Bisquitt.Model.Wire
import Bisquitt.Spec.Codec
import Bisquitt.Spec.Topics
import Bisquitt.Spec.Match
import Bisquitt.Spec.Gateway
import Bisquitt.Spec.Client
import Bisquitt.Spec.System
import Bisquitt.Props.C20
import Bisquitt.Props.C21
import Bisquitt.Props.C22
import Bisquitt.Props.C05
import Bisquitt.Props.C18
import Bisquitt.Props.C19
import Bisquitt.Props.C29
import Bisquitt.Spec.Tx
import Bisquitt.Props.C27
import Bisquitt.Props.C01
import Bisquitt.Props.C03
import Bisquitt.Props.C04
import Bisquitt.Props.C07
import Bisquitt.Props.C08
import Bisquitt.Props.C09
import Bisquitt.Props.C10
import Bisquitt.Props.C11
import Bisquitt.Props.C13
import Bisquitt.Props.C14
import Bisquitt.Props.C23
import Bisquitt.Props.C24
import Bisquitt.Props.C06
import Bisquitt.Props.C02
import Bisquitt.Props.C16
import Bisquitt.Props.C32
import Bisquitt.Props.C30
import Bisquitt.Props.C31
import Bisquitt.Props.C17
import Bisquitt.Props.C28
import Bisquitt.Props.C33
import Bisquitt.Props.C25
import Bisquitt.Props.C26
import Bisquitt.Props.C15
import Bisquitt.Props.C12
import Bisquitt.Props.C34
