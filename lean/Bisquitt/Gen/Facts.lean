-- GENERATED by /verif/factgen from the repository working tree. DO NOT EDIT.
namespace Bisquitt.Gen

-- packets/
abbrev longPacketFlag : UInt8 := 1
theorem longPacketFlag_toNat : longPacketFlag.toNat = 1 := rfl
abbrev shortHeaderLength : UInt16 := 2
theorem shortHeaderLength_toNat : shortHeaderLength.toNat = 2 := rfl
abbrev longHeaderLength : UInt16 := 4
theorem longHeaderLength_toNat : longHeaderLength.toNat = 4 := rfl
abbrev tADVERTISE : UInt8 := 0
theorem tADVERTISE_toNat : tADVERTISE.toNat = 0 := rfl
abbrev tSEARCHGW : UInt8 := 1
theorem tSEARCHGW_toNat : tSEARCHGW.toNat = 1 := rfl
abbrev tGWINFO : UInt8 := 2
theorem tGWINFO_toNat : tGWINFO.toNat = 2 := rfl
abbrev tAUTH : UInt8 := 3
theorem tAUTH_toNat : tAUTH.toNat = 3 := rfl
abbrev tCONNECT : UInt8 := 4
theorem tCONNECT_toNat : tCONNECT.toNat = 4 := rfl
abbrev tCONNACK : UInt8 := 5
theorem tCONNACK_toNat : tCONNACK.toNat = 5 := rfl
abbrev tWILLTOPICREQ : UInt8 := 6
theorem tWILLTOPICREQ_toNat : tWILLTOPICREQ.toNat = 6 := rfl
abbrev tWILLTOPIC : UInt8 := 7
theorem tWILLTOPIC_toNat : tWILLTOPIC.toNat = 7 := rfl
abbrev tWILLMSGREQ : UInt8 := 8
theorem tWILLMSGREQ_toNat : tWILLMSGREQ.toNat = 8 := rfl
abbrev tWILLMSG : UInt8 := 9
theorem tWILLMSG_toNat : tWILLMSG.toNat = 9 := rfl
abbrev tREGISTER : UInt8 := 10
theorem tREGISTER_toNat : tREGISTER.toNat = 10 := rfl
abbrev tREGACK : UInt8 := 11
theorem tREGACK_toNat : tREGACK.toNat = 11 := rfl
abbrev tPUBLISH : UInt8 := 12
theorem tPUBLISH_toNat : tPUBLISH.toNat = 12 := rfl
abbrev tPUBACK : UInt8 := 13
theorem tPUBACK_toNat : tPUBACK.toNat = 13 := rfl
abbrev tPUBCOMP : UInt8 := 14
theorem tPUBCOMP_toNat : tPUBCOMP.toNat = 14 := rfl
abbrev tPUBREC : UInt8 := 15
theorem tPUBREC_toNat : tPUBREC.toNat = 15 := rfl
abbrev tPUBREL : UInt8 := 16
theorem tPUBREL_toNat : tPUBREL.toNat = 16 := rfl
abbrev tSUBSCRIBE : UInt8 := 18
theorem tSUBSCRIBE_toNat : tSUBSCRIBE.toNat = 18 := rfl
abbrev tSUBACK : UInt8 := 19
theorem tSUBACK_toNat : tSUBACK.toNat = 19 := rfl
abbrev tUNSUBSCRIBE : UInt8 := 20
theorem tUNSUBSCRIBE_toNat : tUNSUBSCRIBE.toNat = 20 := rfl
abbrev tUNSUBACK : UInt8 := 21
theorem tUNSUBACK_toNat : tUNSUBACK.toNat = 21 := rfl
abbrev tPINGREQ : UInt8 := 22
theorem tPINGREQ_toNat : tPINGREQ.toNat = 22 := rfl
abbrev tPINGRESP : UInt8 := 23
theorem tPINGRESP_toNat : tPINGRESP.toNat = 23 := rfl
abbrev tDISCONNECT : UInt8 := 24
theorem tDISCONNECT_toNat : tDISCONNECT.toNat = 24 := rfl
abbrev tWILLTOPICUPD : UInt8 := 26
theorem tWILLTOPICUPD_toNat : tWILLTOPICUPD.toNat = 26 := rfl
abbrev tWILLTOPICRESP : UInt8 := 27
theorem tWILLTOPICRESP_toNat : tWILLTOPICRESP.toNat = 27 := rfl
abbrev tWILLMSGUPD : UInt8 := 28
theorem tWILLMSGUPD_toNat : tWILLMSGUPD.toNat = 28 := rfl
abbrev tWILLMSGRESP : UInt8 := 29
theorem tWILLMSGRESP_toNat : tWILLMSGRESP.toNat = 29 := rfl
abbrev MinPacketID : UInt16 := 1
theorem MinPacketID_toNat : MinPacketID.toNat = 1 := rfl
abbrev MaxPacketID : UInt16 := 65535
theorem MaxPacketID_toNat : MaxPacketID.toNat = 65535 := rfl
abbrev MinTopicAlias : UInt16 := 1
theorem MinTopicAlias_toNat : MinTopicAlias.toNat = 1 := rfl
abbrev MaxTopicAlias : UInt16 := 65534
theorem MaxTopicAlias_toNat : MaxTopicAlias.toNat = 65534 := rfl

-- packets1/
abbrev advertiseVarPartLength : UInt16 := 3
theorem advertiseVarPartLength_toNat : advertiseVarPartLength.toNat = 3 := rfl
abbrev authHeaderLength : UInt16 := 2
theorem authHeaderLength_toNat : authHeaderLength.toNat = 2 := rfl
abbrev connackVarPartLength : UInt16 := 1
theorem connackVarPartLength_toNat : connackVarPartLength.toNat = 1 := rfl
abbrev connectHeaderLength : UInt16 := 4
theorem connectHeaderLength_toNat : connectHeaderLength.toNat = 4 := rfl
abbrev disconnectDurationLength : UInt16 := 2
theorem disconnectDurationLength_toNat : disconnectDurationLength.toNat = 2 := rfl
abbrev gwInfoHeaderLength : UInt16 := 1
theorem gwInfoHeaderLength_toNat : gwInfoHeaderLength.toNat = 1 := rfl
abbrev MaxPacketLen : Nat := 8192
abbrev MaxPayloadLength : Nat := 7168
abbrev TIT_REGISTERED : UInt8 := 0
theorem TIT_REGISTERED_toNat : TIT_REGISTERED.toNat = 0 := rfl
abbrev TIT_PREDEFINED : UInt8 := 1
theorem TIT_PREDEFINED_toNat : TIT_PREDEFINED.toNat = 1 := rfl
abbrev TIT_SHORT : UInt8 := 2
theorem TIT_SHORT_toNat : TIT_SHORT.toNat = 2 := rfl
abbrev TIT_STRING : UInt8 := 0
theorem TIT_STRING_toNat : TIT_STRING.toNat = 0 := rfl
abbrev RC_ACCEPTED : UInt8 := 0
theorem RC_ACCEPTED_toNat : RC_ACCEPTED.toNat = 0 := rfl
abbrev RC_CONGESTION : UInt8 := 1
theorem RC_CONGESTION_toNat : RC_CONGESTION.toNat = 1 := rfl
abbrev RC_INVALID_TOPIC_ID : UInt8 := 2
theorem RC_INVALID_TOPIC_ID_toNat : RC_INVALID_TOPIC_ID.toNat = 2 := rfl
abbrev RC_NOT_SUPPORTED : UInt8 := 3
theorem RC_NOT_SUPPORTED_toNat : RC_NOT_SUPPORTED.toNat = 3 := rfl
abbrev flagsTopicIDTypeBits : UInt8 := 3
theorem flagsTopicIDTypeBits_toNat : flagsTopicIDTypeBits.toNat = 3 := rfl
abbrev flagsCleanSessionBit : UInt8 := 4
theorem flagsCleanSessionBit_toNat : flagsCleanSessionBit.toNat = 4 := rfl
abbrev flagsWillBit : UInt8 := 8
theorem flagsWillBit_toNat : flagsWillBit.toNat = 8 := rfl
abbrev flagsRetainBit : UInt8 := 16
theorem flagsRetainBit_toNat : flagsRetainBit.toNat = 16 := rfl
abbrev flagsQOSBits : UInt8 := 96
theorem flagsQOSBits_toNat : flagsQOSBits.toNat = 96 := rfl
abbrev flagsDUPBit : UInt8 := 128
theorem flagsDUPBit_toNat : flagsDUPBit.toNat = 128 := rfl
abbrev pingrespVarPartLength : UInt16 := 0
theorem pingrespVarPartLength_toNat : pingrespVarPartLength.toNat = 0 := rfl
abbrev pubackVarPartLength : UInt16 := 5
theorem pubackVarPartLength_toNat : pubackVarPartLength.toNat = 5 := rfl
abbrev pubcompVarPartLength : UInt16 := 2
theorem pubcompVarPartLength_toNat : pubcompVarPartLength.toNat = 2 := rfl
abbrev publishHeaderLength : UInt16 := 5
theorem publishHeaderLength_toNat : publishHeaderLength.toNat = 5 := rfl
abbrev pubrecVarPartLength : UInt16 := 2
theorem pubrecVarPartLength_toNat : pubrecVarPartLength.toNat = 2 := rfl
abbrev pubrelVarPartLength : UInt16 := 2
theorem pubrelVarPartLength_toNat : pubrelVarPartLength.toNat = 2 := rfl
abbrev regackVarPartLength : UInt16 := 5
theorem regackVarPartLength_toNat : regackVarPartLength.toNat = 5 := rfl
abbrev registerHeaderLength : UInt16 := 4
theorem registerHeaderLength_toNat : registerHeaderLength.toNat = 4 := rfl
abbrev searchGwVarPartLength : UInt16 := 1
theorem searchGwVarPartLength_toNat : searchGwVarPartLength.toNat = 1 := rfl
abbrev subackVarPartLength : UInt16 := 6
theorem subackVarPartLength_toNat : subackVarPartLength.toNat = 6 := rfl
abbrev subscribeHeaderLength : UInt16 := 3
theorem subscribeHeaderLength_toNat : subscribeHeaderLength.toNat = 3 := rfl
abbrev unsubackVarPartLength : UInt16 := 2
theorem unsubackVarPartLength_toNat : unsubackVarPartLength.toNat = 2 := rfl
abbrev unsubscribeHeaderLength : UInt16 := 3
theorem unsubscribeHeaderLength_toNat : unsubscribeHeaderLength.toNat = 3 := rfl
abbrev willMsgReqVarPartLength : UInt16 := 0
theorem willMsgReqVarPartLength_toNat : willMsgReqVarPartLength.toNat = 0 := rfl
abbrev willMsgRespVarPartLength : UInt16 := 1
theorem willMsgRespVarPartLength_toNat : willMsgRespVarPartLength.toNat = 1 := rfl
abbrev willTopicFlagsLength : UInt16 := 1
theorem willTopicFlagsLength_toNat : willTopicFlagsLength.toNat = 1 := rfl
abbrev willTopicReqVarPartLength : UInt16 := 0
theorem willTopicReqVarPartLength_toNat : willTopicReqVarPartLength.toNat = 0 := rfl
abbrev willTopicRespVarPartLength : UInt16 := 1
theorem willTopicRespVarPartLength_toNat : willTopicRespVarPartLength.toNat = 1 := rfl
abbrev willTopicUpdFlagsLength : UInt16 := 1
theorem willTopicUpdFlagsLength_toNat : willTopicUpdFlagsLength.toNat = 1 := rfl
def newPacketWithHeaderCases : List String := ["ADVERTISE", "SEARCHGW", "GWINFO", "AUTH", "CONNECT", "CONNACK", "WILLTOPICREQ", "WILLTOPIC", "WILLMSGREQ", "WILLMSG", "REGISTER", "REGACK", "PUBLISH", "PUBACK", "PUBCOMP", "PUBREC", "PUBREL", "SUBSCRIBE", "SUBACK", "UNSUBSCRIBE", "UNSUBACK", "PINGREQ", "PINGRESP", "DISCONNECT", "WILLTOPICUPD", "WILLTOPICRESP", "WILLMSGUPD", "WILLMSGRESP"]
def newPacketWithHeaderHasDefault : Bool := true

-- gateway/
abbrev connTimeout : Nat := 100 -- milliseconds
abbrev connectTransactionTimeout : Nat := 5000 -- milliseconds
abbrev dtlsConnectTimeout : Nat := 30000 -- milliseconds
def handleMqttSnCases : List String := ["Connect", "Auth", "WillTopic", "WillMsg", "Register", "Publish", "Pubrel", "Subscribe", "Unsubscribe", "Pingreq", "Disconnect", "Regack", "Puback", "Pubrec", "Pubcomp"]
def handleMqttSnHasDefault : Bool := true
def handleMqttCases : List String := ["ConnackPacket", "PubackPacket", "PubrecPacket", "PubcompPacket", "SubackPacket", "UnsubackPacket", "PingrespPacket", "PublishPacket", "PubrelPacket"]
def handleMqttHasDefault : Bool := true
def checkPacketLegalCases : List String := ["Connect", "Auth", "WillMsg", "WillTopic", "Disconnect", "Publish"]
def checkPacketLegalHasDefault : Bool := false
def handleClientPublishCases : List String := ["TIT_REGISTERED", "TIT_PREDEFINED", "TIT_SHORT"]
def handleClientPublishHasDefault : Bool := true
def handleSubscribeCases : List String := ["TIT_STRING", "TIT_PREDEFINED", "TIT_SHORT"]
def handleSubscribeHasDefault : Bool := false
def handleUnsubscribeCases : List String := ["TIT_STRING", "TIT_PREDEFINED", "TIT_SHORT"]
def handleUnsubscribeHasDefault : Bool := false

-- client/
abbrev readTimeout : Nat := 1000 -- milliseconds
abbrev maxPingrespWait : Nat := 60000 -- milliseconds
def client_handlePacketCases : List String := ["Connack", "Register", "Regack", "Suback", "Unsuback", "Publish", "Pubrel", "Puback", "Pubrec", "Pubcomp", "Disconnect", "WillTopicReq", "WillMsgReq", "Pingresp"]
def client_handlePacketHasDefault : Bool := true
def client_topicForPublishCases : List String := ["TIT_REGISTERED", "TIT_PREDEFINED", "TIT_SHORT"]
def client_topicForPublishHasDefault : Bool := true

-- lock discipline: (method, "Lock"|"RLock"|"none", method writes receiver state)
def lockFacts_IDSequence : List (String × String × Bool) := [("Next", "Lock", true)]
def lockFacts_TransactionStore : List (String × String × Bool) := [("Delete", "Lock", true), ("DeleteByType", "Lock", true), ("DeleteTransaction", "Lock", true), ("Get", "RLock", false), ("GetByType", "Lock", false), ("Store", "Lock", true), ("StoreByType", "Lock", true)]
def lockFacts_TransactionBase : List (String × String × Bool) := [("Done", "none", false), ("Err", "RLock", false), ("Fail", "Lock", true), ("Success", "Lock", false), ("finish", "none", false), ("finished", "none", false)]
def lockFacts_RetryTransaction : List (String × String × Bool) := [("Fail", "Lock", false), ("Proceed", "Lock", true), ("SetSuspended", "Lock", true), ("Success", "Lock", false), ("isDone", "none", false), ("restartTimer", "none", true), ("stopTimer", "none", false), ("timeout", "Lock", true)]

-- single-value type assertions (they panic on a mismatch) in the packages a peer can reach
def uncheckedAsserts_gateway : List String := ["broker_publish_qos1_transaction.go:Puback:*mqPkts.PubackPacket", "broker_publish_qos2_transaction.go:Pubcomp:*mqPkts.PubcompPacket", "broker_publish_qos2_transaction.go:Pubrec:*mqPkts.PubrecPacket", "broker_publish_transaction.go:regack:*snPkts1.Register", "handler1.go:findRegisteredTopicID:string", "handler1.go:findRegisteredTopicID:uint16", "handler1.go:handleClientPublish:*mqPkts.PublishPacket", "handler1.go:handleClientPublish:string", "handler1.go:handleMqttSn:*mqPkts.DisconnectPacket", "handler1.go:handleMqttSn:*mqPkts.PingreqPacket", "handler1.go:handleMqttSn:*mqPkts.PubrelPacket", "handler1.go:handleSubscribe:*mqPkts.SubscribePacket", "handler1.go:handleUnsubscribe:*mqPkts.UnsubscribePacket", "handler1.go:pingBroker:*mqPkts.PingreqPacket"]
def uncheckedAsserts_client : List String := ["disconnect_transaction.go:newDisconnectTransaction:pkts.Packet", "ping_transaction.go:newPingTransaction:pkts.Packet", "publish_qos1_transaction.go:newPublishQOS1Transaction:pkts.Packet", "publish_qos2_transaction.go:newPublishQOS2Transaction:pkts.Packet", "register_transaction.go:Regack:*pkts1.Register", "register_transaction.go:newRegisterTransaction:pkts.Packet", "subscribe_transaction.go:Suback:*pkts1.Subscribe", "subscribe_transaction.go:newSubscribeTransaction:pkts.Packet", "subscribe_transaction.go:newSubscribeTransaction:pkts.PacketWithDUP", "unsubscribe_transaction.go:Unsuback:*pkts1.Unsubscribe", "unsubscribe_transaction.go:newUnsubscribeTransaction:pkts.Packet"]
def uncheckedAsserts_transactions : List String := []
def packageVars_gateway : List String := ["Cancelled = errors.New(\"transaction cancelled\")", "ErrIllegalPacketWhenDisconnected = errors.New(\"illegal packet in disconnected state\")", "ErrMqttConnClosed = errors.New(\"MQTT broker closed connection\")", "ErrTopicIDsExhausted = errors.New(\"no more TopicIDs available\")", "Shutdown = errors.New(\"clean shutdown\")"]

-- every place where the gateway can put a packet on the broker link / the client link
def mqttSendSites_gateway : List String := ["broker_publish_qos1_transaction.go:Puback:ProceedMQTT", "broker_publish_qos2_transaction.go:Pubcomp:ProceedMQTT", "broker_publish_qos2_transaction.go:Pubrec:ProceedMQTT", "broker_publish_transaction.go:ProceedMQTT:mqttSend", "broker_publish_transaction.go:resend:mqttSend", "connect_transaction.go:WillMsg:mqttSend", "connect_transaction.go:authenticated:mqttSend", "handler1.go:handleClientPublish:mqttSend", "handler1.go:handleMqttSn:mqttSend", "handler1.go:handleMqttSn:mqttSend", "handler1.go:handleMqttSn:mqttSend", "handler1.go:handleSubscribe:mqttSend", "handler1.go:handleUnsubscribe:mqttSend", "handler1.go:keepBrokerAlive:pingBroker", "handler1.go:pingBroker:mqttSend", "handler1.go:startSleepPinger:pingBroker"]
def snSendSites_gateway : List String := ["broker_publish_qos2_transaction.go:Pubrel:ProceedSN", "broker_publish_transaction.go:ProceedSN:snSend", "broker_publish_transaction.go:regack:ProceedSN", "broker_publish_transaction.go:resend:snSend", "client_publish_qos1_transaction.go:Puback:snSend", "connect_transaction.go:SendConnack:snSend", "connect_transaction.go:WillTopic:snSend", "connect_transaction.go:authenticated:snSend", "handler1.go:flushPktBuffer:snSend", "handler1.go:handleBrokerPublish:ProceedSN", "handler1.go:handleBrokerPublish:snSend", "handler1.go:handleConnect:flushPktBuffer", "handler1.go:handleConnect:snSend", "handler1.go:handleConnect:snSend", "handler1.go:handleConnect:snSend", "handler1.go:handleMqtt:snSend", "handler1.go:handleMqtt:snSend", "handler1.go:handleMqtt:snSend", "handler1.go:handleMqtt:snSend", "handler1.go:handleMqttSn:flushPktBuffer", "handler1.go:handleMqttSn:snSend", "handler1.go:handleMqttSn:snSend", "handler1.go:handleMqttSn:snSend", "handler1.go:handleMqttSn:snSend", "handler1.go:handleMqttSn:snSendNow", "handler1.go:handleSubscribe:snSend", "handler1.go:handleSubscribe:snSend", "handler1.go:run:snSend", "handler1.go:run:snSend", "handler1.go:snSend:snSendNow", "subscribe_transaction.go:Suback:snSend"]

-- cmd/: predefined-topics pipeline and plaintext-credentials guard of each tool
def cliPipeline_bisquitt : List String := [" :: predefinedTopics := topics.PredefinedTopics{}", "c.IsSet(PredefinedTopicsFileFlag) :: v, err := topics.ReadPredefinedTopicsFile(c.Path(PredefinedTopicsFileFlag))", "c.IsSet(PredefinedTopicsFileFlag) :: predefinedTopics = v", "c.IsSet(PredefinedTopicFlag) :: v, err := topics.ParsePredefinedTopicOptions(c.StringSlice(PredefinedTopicFlag)...)", "c.IsSet(PredefinedTopicFlag) :: predefinedTopics.Merge(v)"]
def cliGuard_bisquitt : List String := ["authEnabled && !useDTLS && !c.Bool(InsecureFlag)"]
def cliPipeline_bisquitt_pub : List String := [" :: predefinedTopics := topics.PredefinedTopics{}", "c.IsSet(PredefinedTopicsFileFlag) :: v, err := topics.ReadPredefinedTopicsFile(c.Path(PredefinedTopicsFileFlag))", "c.IsSet(PredefinedTopicsFileFlag) :: predefinedTopics = v", "c.IsSet(PredefinedTopicFlag) :: v, err := topics.ParsePredefinedTopicOptions(c.StringSlice(PredefinedTopicFlag)...)", "c.IsSet(PredefinedTopicFlag) :: predefinedTopics.Merge(v)", " :: topicID, isPredefinedTopic := predefinedTopics.GetTopicID(clientID, topic)"]
def cliGuard_bisquitt_pub : List String := ["c.IsSet(UserFlag) && !useDTLS && !insecure"]
def cliPipeline_bisquitt_sub : List String := [" :: predefinedTopics := topics.PredefinedTopics{}", "c.IsSet(PredefinedTopicsFileFlag) :: v, err := topics.ReadPredefinedTopicsFile(c.Path(PredefinedTopicsFileFlag))", "c.IsSet(PredefinedTopicsFileFlag) :: predefinedTopics = v", "c.IsSet(PredefinedTopicFlag) :: v, err := topics.ParsePredefinedTopicOptions(c.StringSlice(PredefinedTopicFlag)...)", "c.IsSet(PredefinedTopicFlag) :: predefinedTopics.Merge(v)", "range topicList :: topicID, isPredefinedTopic := predefinedTopics.GetTopicID(clientID, topic)"]
def cliGuard_bisquitt_sub : List String := ["c.IsSet(UserFlag) && !useDTLS && !insecure"]

end Bisquitt.Gen
