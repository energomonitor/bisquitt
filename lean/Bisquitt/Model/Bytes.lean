/-
  L0: bytes, big-endian u16, Go-style partial operations.

  `Res α` is the outcome of a Go computation that may return an error or panic.
  Every Go index/slice expression of the decoder is modelled by `getB`/`sliceFrom`/
  `slice`, which yield `.panic` exactly when Go's bounds check fails (with respect to
  the slice *length*; the real code can additionally read zero bytes up to the 8192-byte
  capacity, so the model panics at least as often as the code: "model never panics" is
  the safe direction).
-/
namespace Bisquitt

abbrev Bytes := List UInt8

inductive Res (α : Type) where
  | ok (a : α)
  | err
  | panic
  deriving Repr, DecidableEq

namespace Res
@[inline] def bind {α β} (r : Res α) (f : α → Res β) : Res β :=
  match r with
  | .ok a => f a
  | .err => .err
  | .panic => .panic
instance : Monad Res where
  pure := .ok
  bind := Res.bind

@[simp] theorem ok_bind {α β} (a : α) (f : α → Res β) : (Res.ok a >>= f) = f a := rfl
@[simp] theorem err_bind {α β} (f : α → Res β) : ((Res.err : Res α) >>= f) = .err := rfl
@[simp] theorem panic_bind {α β} (f : α → Res β) : ((Res.panic : Res α) >>= f) = .panic := rfl
@[simp] theorem pure_eq {α} (a : α) : (pure a : Res α) = .ok a := rfl
end Res

/-- big-endian uint16 from two bytes -/
def mk16 (hi lo : UInt8) : UInt16 := UInt16.ofNat (hi.toNat * 256 + lo.toNat)
def hi8 (x : UInt16) : UInt8 := UInt8.ofNat (x.toNat / 256)
def lo8 (x : UInt16) : UInt8 := UInt8.ofNat (x.toNat % 256)
/-- `pkts.EncodeUint16` -/
def enc16 (x : UInt16) : Bytes := [hi8 x, lo8 x]

/-- Go `buf[i]` -/
def getB (bs : Bytes) (i : Nat) : Res UInt8 :=
  match bs[i]? with
  | some b => .ok b
  | none => .panic

/-- Go `buf[i:]` -/
def sliceFrom (bs : Bytes) (i : Nat) : Res Bytes :=
  if i ≤ bs.length then .ok (bs.drop i) else .panic

/-- Go `buf[i:j]` (bounds checked against the length, see header comment) -/
def slice (bs : Bytes) (i j : Nat) : Res Bytes :=
  if i ≤ j ∧ j ≤ bs.length then .ok ((bs.drop i).take (j - i)) else .panic

/-- Go `binary.BigEndian.Uint16(buf[i:i+2])` -/
def get16 (bs : Bytes) (i : Nat) : Res UInt16 := do
  let a ← getB bs i
  let b ← getB bs (i + 1)
  pure (mk16 a b)

theorem getB_ok {bs : Bytes} {i : Nat} (h : i < bs.length) : getB bs i = .ok bs[i] := by
  simp [getB, h]

theorem get16_ok {bs : Bytes} {i : Nat} (h : i + 1 < bs.length) :
    get16 bs i = .ok (mk16 bs[i] bs[i+1]) := by
  rw [get16, getB_ok h, getB_ok (Nat.lt_of_succ_lt h)]; rfl

theorem sliceFrom_ok {bs : Bytes} {i : Nat} (h : i ≤ bs.length) :
    sliceFrom bs i = .ok (bs.drop i) := by simp [sliceFrom, h]

theorem mk16_hi_lo (x : UInt16) : mk16 (hi8 x) (lo8 x) = x := by
  apply UInt16.toNat_inj.mp
  have h : x.toNat < 256 * 256 := x.toNat_lt
  simp only [mk16, hi8, lo8, UInt16.toNat_ofNat', UInt8.toNat_ofNat', Nat.reducePow]
  rw [Nat.mod_mod, Nat.mod_eq_of_lt (Nat.div_lt_of_lt_mul h), Nat.div_add_mod', Nat.mod_eq_of_lt h]

theorem hi8_mk16 (a b : UInt8) : hi8 (mk16 a b) = a := by
  apply UInt8.toNat_inj.mp
  have ha := a.toNat_lt; have hb := b.toNat_lt
  simp only [mk16, hi8, UInt16.toNat_ofNat', UInt8.toNat_ofNat', Nat.reducePow] at ha hb ⊢
  have h : a.toNat * 256 + b.toNat < 65536 := by omega
  rw [Nat.mod_eq_of_lt h, Nat.add_comm, Nat.add_mul_div_right _ _ (by decide), Nat.div_eq_of_lt hb,
    Nat.zero_add, Nat.mod_eq_of_lt ha]

theorem lo8_mk16 (a b : UInt8) : lo8 (mk16 a b) = b := by
  simp [mk16, lo8]

theorem toNat_succ_of_lt {a b : UInt16} (h : a.toNat < b.toNat) : (a + 1).toNat = a.toNat + 1 := by
  rw [UInt16.toNat_add]; exact Nat.mod_eq_of_lt (Nat.lt_of_le_of_lt h b.toNat_lt)

end Bisquitt
