/-
  C17 — Client library QoS guarantees under loss.

  Theorems about the client model (Model/Client.lean, tied to client/*.go by the client suite:
  exact equality of timestamped outputs under testing/synctest), for ALL states:
  * `c17_retry_dup`: a retry-timer expiry with budget left resends the stored packet; for a
    PUBLISH or SUBSCRIBE it carries DUP=1 and the same QoS, topic, message ID and payload;
  * `c17_give_up`: after RetryCount retransmissions the expiry sends nothing and fails the
    exchange with "no more retries" (the timing of the budget is C19);
  * `c17_puback` / `c17_pubrec` / `c17_pubcomp`: the QoS 1 exchange ends successfully exactly on
    the PUBACK with its message ID, the QoS 2 exchange on PUBREC-then-PUBCOMP, in that order;
  * `c17_returns_result`: the blocked `Publish` returns the result of its exchange the moment it ends;
  * `c17_pubrel_answered`: EVERY PUBREL — of an exchange in progress, of one whose message cannot be
    delivered, of one already finished, or of none at all — is answered with a PUBCOMP of the same
    message ID as long as the connection is open.
  The monitors `ClientSpec.c17*` check the whole-session statements on implementation traces.
-/
import Bisquitt.Lemmas.Client

namespace Bisquitt.Cl
open Bisquitt Cl

/-- the DUP variant a retransmission sends -/
def dupOf : Pkt → Pkt
  | .subscribe _ q tit m tid n => .subscribe true q tit m tid n
  | .publish _ q r tit tid m d => .publish true q r tit tid m d
  | p => p

/-- A retry-timer expiry with budget left on an open connection, as a whole: the DUP variant of the
    stored packet replaces it, one retry is counted, the timer is re-armed, the packet goes out. -/
theorem fireTx_retry_open (c : Cl) (t : Tx) (p : Pkt) (hd : t.done = false) (hp : t.data = some p)
    (hb : t.retryNum + 1 ≤ c.cfg.rc) (ho : c.connClosed = false) :
    c.fireTx t .retry =
      (c.setTx { t with data := some (dupOf p), retryNum := t.retryNum + 1,
                        timer := some (c.now + c.cfg.rd, .retry) }).emit (.sn (encode (dupOf p))) := by
  simp only [fireTx, hd, Nat.not_lt.mpr hb, hp, Option.map_some, Bool.false_eq_true, if_false]
  rw [send_open _ _ (show (c.setTx _).connClosed = false from ho)]
  -- `fireTx` spells `dupOf` out as a `match` of its own
  rfl

/-- **C17.** A retransmission: the stored packet, with DUP set if it has such a flag. -/
theorem c17_retry_dup (c : Cl) (t : Tx) (p : Pkt) (hd : t.done = false) (hp : t.data = some p)
    (hb : t.retryNum + 1 ≤ c.cfg.rc) (ho : c.connClosed = false) :
    (c.fireTx t .retry).outs = (c.now, Out.sn (encode (dupOf p))) :: c.outs := by
  rw [fireTx_retry_open c t p hd hp hb ho]; rfl

/-- **C17.** Budget used up: nothing sent, the exchange fails with "no more retries". -/
theorem c17_give_up (c : Cl) (t : Tx) (hd : t.done = false) (hb : t.retryNum + 1 > c.cfg.rc) :
    c.fireTx t .retry = c.finishTx t.id .noMoreRetries := by
  unfold fireTx; simp [hd, hb]

/-- **C17.** QoS 1: the PUBACK with the exchange's message ID ends it successfully. -/
theorem c17_puback (c : Cl) (tid mid : UInt16) (rc : UInt8) (t : Tx) (hl : c.lookupById mid = some t) (hk : t.kind = .pub1) :
    c.handlePacket (.puback tid mid rc) = c.finishTx t.id .ok := by
  dsimp only [handlePacket]; simp [hl, hk]

/-- **C17.** QoS 2: PUBREC moves the exchange on (PUBREL sent, retry budget fresh) … -/
theorem c17_pubrec (c : Cl) (mid : UInt16) (t : Tx) (hl : c.lookupById mid = some t) (hk : t.kind = .pub2 .awaitingPubrec) :
    c.handlePacket (.pubrec mid) = (c.proceed t.id (.pub2 .awaitingPubcomp) (.pubrel mid)).sendOrFail (.pubrel mid) := by
  dsimp only [handlePacket]; simp [hl, hk]

/-- … and only then PUBCOMP ends it; a PUBCOMP before the PUBREC is ignored. -/
theorem c17_pubcomp (c : Cl) (mid : UInt16) (t : Tx) (st : P2St) (hl : c.lookupById mid = some t) (hk : t.kind = .pub2 st) :
    c.handlePacket (.pubcomp mid) = if st = .awaitingPubcomp then c.finishTx t.id .ok else c := by
  dsimp only [handlePacket]; cases st <;> simp [hl, hk]

/-- **C17.** The blocked call returns the result of its exchange as soon as it has ended. -/
theorem c17_returns_result (c : Cl) (w : Wait) (t : Tx) (hw : w.kind = .plain) (hc : w.call ≠ "#keepalive")
    (ht : c.getTx w.tx = some t) (hd : t.done = true) (hg : c.groupDone = false) (hn : w.committed = false) :
    (c.settleOne w).outs = (c.now, Out.ret w.call t.err) :: c.outs ∧ (c.settleOne w).waits = c.waits := by
  simp [settleOne_done_plain c w t hw hc ht hd hn, hg, emit]

/-- **C17.** Every PUBREL is answered with a PUBCOMP of the same message ID. -/
theorem c17_pubrel_answered (c : Cl) (mid : UInt16) (ho : c.connClosed = false) :
    (c.now, Out.sn (encode (.pubcomp mid))) ∈ (c.handlePacket (.pubrel mid)).outs := by
  have hdel : ∀ topic q r d, (c.deliver topic q r d).connClosed = false ∧ (c.deliver topic q r d).now = c.now :=
    fun topic q r d => by rw [deliver_frame]; exact ⟨ho, rfl⟩
  dsimp only [handlePacket]
  -- every branch sends the PUBCOMP first; what may follow, the end of the exchange, sends nothing
  simp only [send_open _ _ (hdel _ _ _ _).1, sendOrFail_open c _ ho, send_open c _ ho, if_true]
  split
  · split
    · split
      · rw [finishTx_outs, emit, (hdel _ _ _ _).2]; exact List.mem_cons_self
      · rw [finishTx_outs]; exact List.mem_cons_self
    · exact List.mem_cons_self
  · exact List.mem_cons_self

end Bisquitt.Cl
