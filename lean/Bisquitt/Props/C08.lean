/-
  C08 — Authentication is enforced exactly as configured.

  Theorems about the model's connect exchange, for ALL states and inputs:
  * `c08_auth_enabled_waits`: with authentication enabled, starting the exchange sends nothing
    to the broker — the CONNECT waits for AUTH;
  * `c08_plain`: a PLAIN AUTH with well-formed data (`\0user\0password`) puts exactly those
    credentials (and both flags) into the CONNECT under construction; without a will that
    CONNECT is sent at once (`c08_plain_sent`);
  * `c08_malformed` / `c08_unknown_method`: malformed PLAIN data ends the exchange with nothing
    sent to the broker; an unknown method is answered with CONNACK "not supported" and nothing is
    sent to the broker;
  * `c08_auth_disabled`: with authentication disabled the CONNECT carries exactly the configured
    credentials, and AUTH packets arriving later find the exchange past `awaitingAuth` and change
    nothing (`c08_auth_ignored`).
  * **all runs** — `c08_no_connect_without_auth`: with authentication enabled, after ANY sequence of
    timed events that contains no AUTH datagram of the client (CONNECTs with or without a will, will
    packets, every other datagram, malformed ones, broker packets, every timer on the way, EOF,
    shutdown) NO MQTT CONNECT has been written to the broker; invariant: every connect exchange still
    waits for AUTH (`Lemmas/GwAuth.lean`: the frame `f8Frame` carried through every model function by the walk of
    `Lemmas/GwFrame.lean`).
  * **all runs, authentication disabled** — `c08_configured_credentials_in_every_connect`: after ANY sequence of
    timed events (AUTH packets with any method and data at any moment of any number of connect exchanges, will
    packets, everything else) every MQTT CONNECT in the log carries exactly the configured credentials;
    invariant `J` (`Lemmas/GwCreds.lean`: every stored connect exchange is past `awaitingAuth` and carries the
    configured credentials, and so does every CONNECT written), frame `fcFrame` carried through every model function.
  The monitor `Spec.c0809` checks the whole-session statement on implementation traces.
-/
import Bisquitt.Lemmas.GwCreds
import Bisquitt.Props.C07

namespace Bisquitt.Gw
open Bisquitt Gw

/-- **C08.** With authentication enabled the exchange starts silently. -/
theorem c08_auth_enabled_waits (g : Gw) (id : Nat) (f : ConnFields) (h : g.cfg.auth = true) :
    g.startConnectTx id f = g := by
  unfold startConnectTx; simp [h]

/-- **C08.** The CONNECT prepared by `handleConnect` carries the configured credentials. -/
theorem c08_configured (cfg : Cfg) (w c : Bool) (d : UInt16) (cid : Bytes) :
    (mkConnFields cfg w c d cid).uflag = cfg.user.isSome ∧ (mkConnFields cfg w c d cid).user = cfg.user.getD [] ∧
    (mkConnFields cfg w c d cid).pflag = cfg.pass.isSome ∧ (mkConnFields cfg w c d cid).pass = cfg.pass.getD [] ∧
    (mkConnFields cfg w c d cid).cid = cid ∧ (mkConnFields cfg w c d cid).ka = d ∧
    (mkConnFields cfg w c d cid).clean = c ∧ (mkConnFields cfg w c d cid).will = w :=
  ⟨rfl, rfl, rfl, rfl, rfl, rfl, rfl, rfl⟩

/-- **C08.** With authentication disabled and no will, starting the exchange sends exactly the
    prepared CONNECT. -/
theorem c08_auth_disabled (g : Gw) (t : Tx) (f : ConnFields) (h : g.cfg.auth = false)
    (ht : g.getTx t.id = some t) (hw : f.will = false) :
    (g.startConnectTx t.id f).outs = (g.now, Out.mq f.toPkt) :: g.outs := by
  unfold startConnectTx
  simp only [h, Bool.false_eq_true, if_false, ht]
  exact c07_connect_sent_nowill g t f hw

/-- **C08.** PLAIN with well-formed data: exactly those credentials. -/
theorem c08_plain (g : Gw) (t : Tx) (f : ConnFields) (data u p : Bytes) (hd : decodePlain data = some (u, p)) :
    g.connAuth t .awaitingAuth f plainMethod data =
      g.connAuthenticated t { f with uflag := true, user := u, pflag := true, pass := p } := by
  unfold connAuth; simp [hd]

theorem c08_plain_sent (g : Gw) (t : Tx) (f : ConnFields) (data u p : Bytes) (hd : decodePlain data = some (u, p))
    (hw : f.will = false) :
    (g.connAuth t .awaitingAuth f plainMethod data).outs =
      (g.now, Out.mq (.connect f.cid f.clean f.ka true u true p false f.wq f.wr f.wt f.wm)) :: g.outs := by
  rw [c08_plain g t f data u p hd, c07_connect_sent_nowill _ _ _ (by simpa using hw)]
  simp [ConnFields.toPkt, hw]

/-- **C08.** Malformed PLAIN data: nothing is sent, the session ends. -/
theorem c08_malformed (g : Gw) (t : Tx) (f : ConnFields) (data : Bytes) (hd : decodePlain data = none) :
    (g.connAuth t .awaitingAuth f plainMethod data).outs = g.outs ∧
    (g.connAuth t .awaitingAuth f plainMethod data).alive = false := by
  unfold connAuth; simp [hd, fail_alive]

/-- **C08.** Unknown method: CONNACK "not supported", nothing to the broker, the session ends. -/
theorem c08_unknown_method (g : Gw) (t : Tx) (f : ConnFields) (m data : Bytes) (hm : m ≠ plainMethod)
    (hs : g.st ≠ .asleep) :
    (g.connAuth t .awaitingAuth f m data).outs = (g.now, Out.sn (encode (.connack Gen.RC_NOT_SUPPORTED))) :: g.outs ∧
    (g.connAuth t .awaitingAuth f m data).alive = false := by
  unfold connAuth; simp [hm, fail_alive, sendConnack, snSend, hs, emit]

/-- **C08.** AUTH outside `awaitingAuth` (in particular: whenever authentication is disabled,
    because the exchange then starts authenticated) changes nothing. -/
theorem c08_auth_ignored (g : Gw) (t : Tx) (st : ConnSt) (f : ConnFields) (m data : Bytes) (h : st ≠ .awaitingAuth) :
    g.connAuth t st f m data = g := by
  unfold connAuth; simp [h]

/-- non-vacuity: "\0u\0p" is well-formed PLAIN data, "u\0p" and "\0u" are not -/
example : decodePlain [0, 0x75, 0, 0x70] = some ([0x75], [0x70]) := by decide +kernel
example : decodePlain [0x75, 0, 0x70] = none := by decide +kernel
example : decodePlain [0, 0x75] = none := by decide +kernel

/-! ## every run: with authentication enabled, no MQTT CONNECT before an AUTH datagram -/

@[simp] theorem setTx_cfg (g : Gw) (t : Tx) : (g.setTx t).cfg = g.cfg := rfl
@[simp] theorem mqttSend_cfg (g : Gw) (p : MqPkt) : (g.mqttSend p).cfg = g.cfg := rfl

/-- events other than an AUTH datagram from the client -/
def noAuthEvent : Event → Bool
  | .sn bytes => match decode (bytes.take Gen.MaxPacketLen) with
    | .ok (_, p) => notAuth p
    | _ => true
  | _ => true

/-- **C08 (ALL runs).** With authentication enabled, whatever the client, the broker and the clock do —
    CONNECTs (with or without a will), will packets, every other datagram, malformed ones, broker
    packets, every timer, EOF, shutdown — as long as the client has sent no AUTH datagram the gateway
    writes NO MQTT CONNECT to the broker. -/
theorem c08_no_connect_without_auth (cfg : Cfg) (a b : UInt16) (evs : List (Nat × Event)) (ha : cfg.auth = true)
    (hq : ∀ e ∈ evs, noAuthEvent e.2 = true) : mqConnects ((Gw.init cfg a b).run evs) = [] :=
  filter_isMqConnect (Fr.run_init (f8Sites cfg) (f8Conn cfg ha) evs (fun e he =>
    Frame.AdmitsEv.intro e.2 (fun _ => trivial) fun _ _ p eq hdec => f8Admits cfg p (by simpa [noAuthEvent, eq, hdec] using hq e he)) a b trivial trivial).2.1

/-! ## every run, authentication disabled: every MQTT CONNECT carries the configured credentials -/

/-- **C08 (ALL runs, authentication disabled).** Whatever the client sends — AUTH packets with any method and
    data at any moment of any number of connect exchanges included — every MQTT CONNECT the gateway ever writes
    carries exactly the configured credentials (user flag and name, password flag and password). -/
theorem c08_configured_credentials_in_every_connect (cfg : Cfg) (a b : UInt16) (evs : List (Nat × Event))
    (ha : cfg.auth = false) : ∀ o ∈ ((Gw.init cfg a b).run evs).outs, connOutOk cfg o := fun o ho =>
  connOutOk_of_ok ((Fr.run_init (fcSites cfg) (fcConn cfg ha) evs
    (fun e _ => Frame.admitsEv_all (fcAdmits cfg) trivial e.2) a b trivial trivial).2.1 o ho)

/-- non-vacuity: authentication disabled, configured credentials u / p; the client connects and sends a PLAIN AUTH
    with other credentials: the one MQTT CONNECT written carries u / p -/
example : (((Gw.init ⟨false, some [0x75], some [0x70], 10, 2, []⟩ 1 10).run
    [(100, .sn (encode (.connect false true 1 60 [0x63]))),
     (200, .sn (encode (.auth 0 [0x50, 0x4C, 0x41, 0x49, 0x4E] [0, 0x78, 0, 0x79])))]).outs.filterMap
    fun o => match o.2 with | .mq (.connect _ _ _ uf u pf p ..) => some (uf, u, pf, p) | _ => none) =
    [(true, [0x75], true, [0x70])] := by decide +kernel

end Bisquitt.Gw
