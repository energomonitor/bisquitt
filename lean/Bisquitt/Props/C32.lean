/-
  C32 — Short-topic and predefined routing is consistent between client and gateway.

  Both sides compute names from IDs with the same two functions over the shared configuration:
  the client library in `topicForPublish` / `Subscribe` / `Publish` (`GetTopicName(ClientID, id)`,
  `EncodeShortTopic`, `DecodeShortTopic`), the gateway in `handlePublish` / `handleSubscribe` /
  `handleBrokerPublish`.  `clientName` below is the client library's reading of a (type, ID) pair.
  Theorems, for ALL configurations, client IDs, IDs and names:
  * `c32_to_broker`: the name under which the gateway forwards a PUBLISH / SUBSCRIBE with a
    predefined or short ID is the name the client reads for that ID (the session's client ID being
    the one the client connected with);
  * `c32_short_roundtrip`: a 2-byte name the client encodes as a short ID is decoded by the gateway
    to the same name, and vice versa;
  * `c32_to_client`: the (type, ID) the gateway chooses for a broker message with a short or
    predefined ID is read by the client as exactly the broker's topic name — in particular a "*"
    entry shadowed by a client-specific one is never used (C05).
  The monitors `Spec.c01` / `Spec.c02` check the same on implementation traces (projected to
  predefined and short IDs); the client library's own reading function is tied by the client suite.
-/
import Bisquitt.Props.C02

namespace Bisquitt.Gw
open Bisquitt Gw

/-- the client library's reading of a predefined or short topic ID (`topicForPublish`) -/
def clientName (predef : Predef) (clientId : Bytes) (tit : UInt8) (id : UInt16) : Option Bytes :=
  if tit = Gen.TIT_PREDEFINED then predef.getTopicName clientId id
  else if tit = Gen.TIT_SHORT then some (decodeShortTopic id)
  else none

/-- **C32 (client → broker).** -/
theorem c32_to_broker (g : Gw) (tit : UInt8) (id : UInt16) (h : tit = Gen.TIT_PREDEFINED ∨ tit = Gen.TIT_SHORT) :
    (match g.resolveTopic tit id with | .ok n => some n | _ => none) = clientName g.cfg.predef g.clientId tit id := by
  unfold resolveTopic clientName predefName
  -- the type codes are constants: both sides evaluate
  rcases h with rfl | rfl
  · cases g.cfg.predef.getTopicName g.clientId id <;> rfl
  · rfl

/-- **C32 (short names).** -/
theorem c32_short_roundtrip (name : Bytes) (h : name.length = 2) (id : UInt16) :
    decodeShortTopic (encodeShortTopic name) = name ∧ encodeShortTopic (decodeShortTopic id) = id :=
  ⟨c21_short_name name h, c21_short_id id⟩

/-- **C32 (broker → client).** -/
theorem c32_to_client (g : Gw) (topic : Bytes) (tid : UInt16) (tit : UInt8) (h : g.brokerTopicId topic = some (tid, tit))
    (ht : tit = Gen.TIT_PREDEFINED ∨ tit = Gen.TIT_SHORT) :
    clientName g.cfg.predef g.clientId tit tid = some topic := by
  unfold clientName
  rcases c02_resolves g topic tid tit h with ⟨rfl, h2⟩ | ⟨rfl, _⟩ | ⟨rfl, h2⟩
  · exact congrArg some h2
  · rcases ht with h | h <;> exact absurd h (by decide)
  · exact h2

/-- non-vacuity: with {c1: 1 ↦ "y", *: 1 ↦ "x", *: 2 ↦ "z"} client c1 reads 1 as "y" and 2 as "z",
    and the gateway never picks the shadowed ID 1 for "x" -/
example : clientName [([0x63, 0x31], [(1, [0x79])]), ([0x2A], [(1, [0x78]), (2, [0x7A])])] [0x63, 0x31] 1 1 = some [0x79] ∧
    clientName [([0x63, 0x31], [(1, [0x79])]), ([0x2A], [(1, [0x78]), (2, [0x7A])])] [0x63, 0x31] 1 2 = some [0x7A] ∧
    Predef.getTopicIdSet [([0x63, 0x31], [(1, [0x79])]), ([0x2A], [(1, [0x78]), (2, [0x7A])])] [0x63, 0x31] [0x78] = [] := by
  decide

end Bisquitt.Gw
