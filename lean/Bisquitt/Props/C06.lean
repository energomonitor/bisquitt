/-
  C06 — Exchanges started by each side never interfere.

  The model keeps two stores keyed by message ID, as the code does since the repair
  (`h.transactions` for client-initiated SUBSCRIBE / QoS-1 PUBLISH exchanges,
  `h.brokerTransactions` for broker- and gateway-initiated PUBLISH / REGISTER exchanges), and a
  finished transaction removes only itself.  Theorems, for ALL states:
  * `c06_broker_store_frame` / `c06_client_store_frame`: storing, and cleaning up after, an
    exchange of one side never changes what the other side's store holds under any message ID;
  * `c06_acks_use_own_store`: the client's REGACK/PUBACK/PUBREC/PUBCOMP and the broker's PUBREL
    are looked up only among broker-initiated exchanges, the broker's PUBACK/SUBACK only among
    client-initiated ones — so an exchange of the other side under the same ID is never found
    (and hence never answered, advanced or finished) in its place;
  * `c06_finally_only_self`: the clean-up of a finished or superseded exchange deletes the store
    entry only when it still is that exchange's own; a successor stored under the same message ID
    stays (`c06_successor_survives`).
  The whole-session statement (every acknowledgement of an exchange in progress is delivered
  whatever the other side does under the same ID) is checked by the monitor `Spec.c06` on the
  `collide` profile, which forces both sides onto a handful of message IDs.  The client library keeps the
  same two stores; its three theorems (`c06_client_*`, end of the file) say the same of the client model, and the
  client suite ties them.
-/
import Bisquitt.Model.Gateway
import Bisquitt.Model.Client
import Bisquitt.Lemmas.Assoc

namespace Bisquitt.Gw
open Bisquitt Gw

theorem runFinally_byId (g : Gw) (t : Tx) (mid : UInt16) (h : t.key = .byId mid) :
    g.runFinally t = if g.byId.lookup mid = some t.id then { g with byId := g.byId.filter (·.1 != mid) } else g := by
  unfold runFinally; rw [h]

theorem runFinally_byIdB (g : Gw) (t : Tx) (mid : UInt16) (h : t.key = .byIdB mid) :
    g.runFinally t = if g.byIdB.lookup mid = some t.id then { g with byIdB := g.byIdB.filter (·.1 != mid) } else g := by
  unfold runFinally; rw [h]

/-- **C06.** Broker-side bookkeeping leaves the client-side store alone. -/
theorem c06_broker_store_frame (g : Gw) (mid : UInt16) (id : Nat) (t : Tx) (h : t.key = .byIdB mid) :
    (g.storeByIdB mid id).byId = g.byId ∧ (g.runFinally t).byId = g.byId := by
  rw [runFinally_byIdB g t mid h]
  exact ⟨rfl, by split <;> rfl⟩

/-- **C06.** Client-side bookkeeping leaves the broker-side store alone. -/
theorem c06_client_store_frame (g : Gw) (mid : UInt16) (id : Nat) (t : Tx) (h : t.key = .byId mid) :
    (g.storeById mid id).byIdB = g.byIdB ∧ (g.runFinally t).byIdB = g.byIdB := by
  rw [runFinally_byId g t mid h]
  exact ⟨rfl, by split <;> rfl⟩

/-- **C06.** A new exchange of either side is stored in its own store only. -/
theorem c06_new_exchanges (g : Gw) (q : UInt8) (tid mid : UInt16) (dup : Bool) (topic : Bytes) :
    (g.storeClientPub1 q tid mid).byIdB = g.byIdB ∧
    (topic ≠ [] → (g.forwardSubscribe dup q mid topic tid).byIdB = g.byIdB) := by
  constructor
  · unfold storeClientPub1; split <;> rfl
  · intro hne
    unfold forwardSubscribe
    have : topic.isEmpty = false := List.isEmpty_eq_false_iff.mpr hne
    simp [this, mqttSend, emit, storeById, newTx]

/-- **C06.** Which store each acknowledgement is looked up in. -/
theorem c06_acks_use_own_store (g g' : Gw) (hb : g'.byIdB = g.byIdB) (hc : g'.byId = g.byId) (ht : g'.txs = g.txs)
    (mid : UInt16) : g'.lookupByIdB mid = g.lookupByIdB mid ∧ g'.lookupById mid = g.lookupById mid := by
  unfold lookupByIdB lookupById getTx
  rw [hb, hc, ht]
  exact ⟨rfl, rfl⟩

/-- the client-side lookup does not depend on the broker-side store at all, and vice versa -/
theorem c06_lookup_independent (g : Gw) (other : List (UInt16 × Nat)) (mid : UInt16) :
    ({ g with byIdB := other } : Gw).lookupById mid = g.lookupById mid ∧
    ({ g with byId := other } : Gw).lookupByIdB mid = g.lookupByIdB mid := ⟨rfl, rfl⟩

/-- **C06.** Clean-up deletes only the exchange's own entry. -/
theorem c06_finally_only_self (g : Gw) (t : Tx) (mid : UInt16) (h : t.key = .byId mid)
    (hother : g.byId.lookup mid ≠ some t.id) : g.runFinally t = g := by
  rw [runFinally_byId g t mid h, if_neg hother]

theorem c06_finally_only_self_b (g : Gw) (t : Tx) (mid : UInt16) (h : t.key = .byIdB mid)
    (hother : g.byIdB.lookup mid ≠ some t.id) : g.runFinally t = g := by
  rw [runFinally_byIdB g t mid h, if_neg hother]

/-- **C06.** A successor stored under the same message ID survives the end of the exchange it
    superseded; entries under other message IDs are never touched. -/
theorem c06_successor_survives (g : Gw) (t : Tx) (mid mid' : UInt16) (succ : Nat) (h : t.key = .byId mid)
    (hs : succ ≠ t.id) (hl : g.byId.lookup mid' = some succ) : (g.runFinally t).byId.lookup mid' = some succ := by
  rw [runFinally_byId g t mid h]
  split
  · rename_i hself
    -- the entry under `mid` is `t`'s own, so the successor's is under another message ID
    have hne : mid' ≠ mid := fun e => hs (Option.some.inj ((e ▸ hl).symm.trans hself))
    simp only [lookup_filter_ne, hne, if_false, hl]
  · exact hl

end Bisquitt.Gw

namespace Bisquitt.Cl
open Bisquitt Cl

/-- **C06 (client library).** The client keeps the gateway's QoS-2 PUBLISH exchanges (`byIdB`)
    apart from its own exchanges (`byId`): storing one never changes what the other store holds … -/
theorem c06_client_stores_apart (c : Cl) (mid : UInt16) (id : Nat) :
    (c.store (.byId mid) id).byIdB = c.byIdB ∧ (c.store (.byIdB mid) id).byId = c.byId := ⟨rfl, rfl⟩

/-- … the end of a gateway-initiated exchange removes only itself and nothing of the client's … -/
theorem c06_client_finally_b (c : Cl) (t : Tx) (mid : UInt16) (h : t.key = .byIdB mid) :
    (c.runFinally t).byId = c.byId ∧ (c.byIdB.lookup mid ≠ some t.id → c.runFinally t = c) := by
  unfold runFinally; rw [h]; simp only
  constructor
  · split <;> rfl
  · intro hne; simp [hne]

/-- … and the acknowledgements of the client's own exchanges are looked up among those only. -/
theorem c06_client_lookup_independent (c : Cl) (other : List (UInt16 × Nat)) (mid : UInt16) :
    ({ c with byIdB := other } : Cl).lookupById mid = c.lookupById mid ∧
    ({ c with byId := other } : Cl).lookupByIdB mid = c.lookupByIdB mid := ⟨rfl, rfl⟩

end Bisquitt.Cl
