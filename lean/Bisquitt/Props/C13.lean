/-
  C13 — Sessions always terminate cleanly and release everything.

  Theorems about the model, for ALL states:
  * `c13_end`: when the session context has been cancelled, ending the session emits — at the
    cancellation time — a DISCONNECT to the client exactly when it was active or awake, then the
    end marker and the closing of the broker connection, stops every timer and pinger, and does
    so once (`c13_end_once`);
  * `c13_causes`: gateway shutdown, broker EOF, broker garbage, an undecodable datagram and an
    illegal packet each cancel the session (`alive = false`) in the very step that handles them,
    and `c13_step_ends`: the same scripted step emits the end;
  * `c13_plain_disconnect`: the client's own DISCONNECT is answered, the state becomes
    disconnected first (so the end sends no second DISCONNECT), and the session is cancelled.
  * **all runs** — `c13_step_reaches_ended` + `c13_ended_runs_are_silent`: the step in which a session
    is cancelled leaves it `Ended`, and from an `Ended` session ANY further sequence of events and any
    passage of time emits nothing at all — no datagram, no MQTT packet, no second end;
  Bounded real time (poll interval, pending send) and goroutine exit are runtime facts: they are
  measured by the harness on the real handler (virtual clock, goroutine census after the end)
  and checked by the monitor `Spec.c13`.
-/
import Bisquitt.Lemmas.GwSt
import Bisquitt.Props.C07

namespace Bisquitt.Gw
open Bisquitt Gw

/-- **C13 (the end).** -/
theorem c13_end (g : Gw) (tc : Nat) (hc : g.cancelledAt = some tc) (he : g.endedEmitted = false) :
    g.finishSession.outs =
      (tc, Out.mqClose) :: (tc, Out.ended g.endCls) ::
        ((if g.st = .active ∨ g.st = .awake then [(tc, Out.sn (encode (.disconnect 0)))] else []) ++ g.outs) ∧
    g.finishSession.endedEmitted = true ∧ g.finishSession.pingers = [] ∧
    ∀ t ∈ g.finishSession.txs, t.timer = none := by
  rw [finishSession_eq g tc hc he]
  refine ⟨rfl, rfl, rfl, fun t ht => ?_⟩
  obtain ⟨y, _, rfl⟩ := List.mem_map.mp ht
  rfl

theorem c13_end_once (g : Gw) (he : g.endedEmitted = true) : g.finishSession = g := by
  unfold finishSession; split <;> simp [he]

/-- **C13 (causes).** Shutdown, broker EOF or garbage, and undecodable datagrams cancel the session. -/
theorem c13_causes (g : Gw) (ev : Event)
    (h : ev = .shutdown ∨ ev = .mqEof ∨ ev = .mqGarbage ∨
      (∃ bytes, ev = .sn bytes ∧ ∀ hp, decode (bytes.take Gen.MaxPacketLen) ≠ .ok hp) ∨
      (∃ bytes hd p, ev = .sn bytes ∧ decode (bytes.take Gen.MaxPacketLen) = .ok (hd, p) ∧ g.packetLegal p = false)) :
    (g.handleEvent ev).alive = false := by
  rcases h with rfl | rfl | rfl | ⟨bytes, rfl, hb⟩ | ⟨bytes, hd, p, rfl, hdec, hl⟩
  · exact fail_alive _ _
  · simp only [handleEvent]; split <;> exact fail_alive _ _
  · exact fail_alive _ _
  · simp only [handleEvent]
    split
    · rename_i h1 p1 hd1
      exact absurd hd1 (hb _)
    · exact fail_alive _ _
  · simp only [handleEvent, hdec]
    have hd := (c07_illegal g p hl).2
    have : (g.handleSn p).keepBrokerAlive = g.handleSn p := by
      unfold keepBrokerAlive; simp [hd]
    rw [this]; exact hd

theorem finishSession_emitted (g : Gw) (h : g.alive = false) : g.finishSession.endedEmitted = true := by
  unfold finishSession
  split
  · split
    · assumption
    · rfl
  · rename_i hn
    simp [alive, hn] at h

theorem finishSession_alive (g : Gw) : g.finishSession.alive = g.alive := by
  unfold finishSession
  split
  · split
    · rfl
    · unfold shutdownDisconnect
      split <;> rfl
  · rfl

theorem sample_syncs (g : Gw) : g.sample.sampledState = g.sample.st ∧ g.sample.sampledReg = g.sample.liveRegistry ∧
    g.sample.sampledBuf = g.sample.bufferBytes ∧ g.sample.alive = g.alive ∧ g.sample.endedEmitted = g.endedEmitted := by
  obtain ⟨new, hn, e⟩ := sample_eq g
  rw [e]
  exact ⟨rfl, rfl, rfl, rfl, rfl⟩

/-- **C13.** The step that cancels the session also emits its end. -/
theorem c13_step_ends (g : Gw) (t : Nat) (ev : Event) (h : ((advance 100000 g t).handleEvent ev).alive = false) :
    (g.step t ev).endedEmitted = true := by
  -- the handler cancelled the session: `advance` ends it at once
  have hadv : (advance 100000 ((advance 100000 g t).handleEvent ev) t).endedEmitted = true := by
    rw [advance, if_pos (by rw [h]; rfl)]
    exact finishSession_emitted _ h
  unfold step stepCore deliver
  rw [(sample_syncs _).2.2.2.2]
  split
  · rename_i h0
    exact finishSession_emitted _ (by simpa using h0)
  · rw [c13_end_once _ hadv]
    exact hadv

/-- **C13.** The client's own DISCONNECT: answered, state disconnected, session cancelled. -/
theorem c13_plain_disconnect (g : Gw) :
    g.handlePlainDisconnect.outs = (g.now, Out.sn (encode (.disconnect 0))) :: (g.now, Out.mq .disconnect) :: g.outs ∧
    g.handlePlainDisconnect.st = .disconnected ∧ g.handlePlainDisconnect.alive = false := by
  unfold handlePlainDisconnect
  refine ⟨?_, by simp, fail_alive _ _⟩
  simp [snSend, mqttSend, emit, setSt]

/-- the session has ended and the instrumentation has reported its last state -/
def Ended (g : Gw) : Prop :=
  g.alive = false ∧ g.endedEmitted = true ∧ g.sampledState = g.st ∧ g.sampledReg = g.liveRegistry ∧ g.sampledBuf = g.bufferBytes

theorem sample_ended (g : Gw) (h : Ended g) : g.sample = g := by
  unfold sample sampleBuf sampleReg sampleState
  obtain ⟨_, _, h1, h2, h3⟩ := h
  simp [h1.symm, h2.symm, h3.symm]

theorem advance_ended (fuel : Nat) (g : Gw) (t : Nat) (h : g.alive = false) (he : g.endedEmitted = true) :
    advance fuel g t = g.setNow (max g.now t) := by
  cases fuel with
  | zero => rfl
  | succ n => unfold advance; simp [h, c13_end_once g he]

/-- **C13 (one whole step).** Once a session has ended, no event and no passage of time makes it emit
    anything: no datagram, no MQTT packet, no second end. -/
theorem c13_ended_step (g : Gw) (t : Nat) (ev : Event) (h : Ended g) :
    (g.step t ev).outs = g.outs ∧ Ended (g.step t ev) := by
  -- the clock is no part of `Ended`
  have hE : Ended (g.setNow (max g.now t)) := h
  unfold step stepCore deliver
  rw [advance_ended _ g t h.1 h.2.1, if_pos (by rw [hE.1]; rfl), c13_end_once _ hE.2.1, sample_ended _ hE]
  exact ⟨rfl, hE⟩

/-- **C13 (ALL runs).** After its end a session is silent for ever, whatever still arrives. -/
theorem c13_ended_runs_are_silent (g : Gw) (evs : List (Nat × Event)) (h : Ended g) :
    (g.run evs).outs = g.outs ∧ Ended (g.run evs) := by
  unfold run
  induction evs generalizing g with
  | nil => exact ⟨rfl, h⟩
  | cons e rest ih =>
    simp only [List.foldl_cons]
    have q := c13_ended_step g e.1 e.2 h
    have q2 := ih _ q.2
    exact ⟨q2.1.trans q.1, q2.2⟩

/-- **C13.** The step in which a session is cancelled leaves it `Ended`: from then on
    `c13_ended_runs_are_silent` applies. -/
theorem c13_step_reaches_ended (g : Gw) (t : Nat) (ev : Event) (h : (g.step t ev).alive = false) : Ended (g.step t ev) := by
  have hs := sample_syncs (g.stepCore t ev)
  -- either way the step ends with `finishSession`, which leaves `alive` as it is
  obtain ⟨x, e⟩ : ∃ x : Gw, g.stepCore t ev = x.finishSession := ⟨_, (apply_ite Gw.finishSession _ _ _).symm⟩
  have ha : x.finishSession.alive = false := by rw [← e, ← hs.2.2.2.1]; exact h
  have he := finishSession_emitted x (finishSession_alive x ▸ ha)
  unfold step
  exact ⟨h, by rw [hs.2.2.2.2, e]; exact he, hs.1, hs.2.1, hs.2.2.1⟩

end Bisquitt.Gw
