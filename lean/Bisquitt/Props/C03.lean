/-
  C03 — Control packets are translated one-to-one with matching IDs and codes.

  Theorems about the model's dispatchers, for ALL states and field values (client active):
  * `c03_sn_simple`: PUBREL and PINGREQ from the client each produce exactly one MQTT packet of
    the same kind with the same message ID; `c03_mq_simple`: PUBREC, PUBCOMP, UNSUBACK and
    PINGRESP from the broker each produce exactly one MQTT-SN packet with the same message ID;
  * `c03_subscribe` / `c03_unsubscribe`: a SUBSCRIBE / UNSUBSCRIBE is forwarded as exactly one
    MQTT packet with the same message ID, DUP flag, requested QoS and the resolved filter, and
    the topic ID for the SUBACK is remembered under the message ID; `c03_filter_*`: how the filter
    and that topic ID are resolved (0 for wildcard and short names);
  * `c03_suback`: the MQTT-SN SUBACK is "accepted" exactly when the broker's return code is 0-2,
    and then carries the granted QoS and the remembered topic ID.
  The plain DISCONNECT is C13 `c13_plain_disconnect`.
  * **all runs** (`Lemmas/GwWatch.lean`: the frame `fwFrame w` for a family `w` of watched MQTT packets, carried
    through every model function by the walk of `Lemmas/GwFrame.lean`): `c03_subscribe_only_for_subscribe_datagram`,
    `c03_unsubscribe_only_for_unsubscribe_datagram`, `c03_pubrel_only_for_pubrel_datagram` — in ANY reachable
    state, an event that is not a datagram of that type (any other datagram, any broker packet, every
    timer and retransmission fired on the way, EOF, shutdown, the session end) writes NO such packet to the
    broker; `c03_*_bounded` — over any run there are at most as many as datagrams of the type ("one-to-one":
    never invented, never repeated; `c03_subscribe` / `c03_unsubscribe` / `c03_sn_simple` say which one).
  * `c03_own_ping_reply_swallowed`: the PINGRESP of a ping of the gateway itself is not passed on.
-/
import Bisquitt.Lemmas.GwSt
import Bisquitt.Lemmas.GwWatch

namespace Bisquitt.Gw
open Bisquitt Gw

/-- **C03.** PUBREL and PINGREQ: one MQTT packet each, same message ID. -/
theorem c03_sn_simple (g : Gw) (h : g.st = .active) (mid : UInt16) (cid : Bytes) :
    (g.handleSn (.pubrel mid)).outs = (g.now, Out.mq (.pubrel mid)) :: g.outs ∧
    (g.handleSn (.pingreq cid)).outs = (g.now, Out.mq .pingreq) :: g.outs := by
  constructor
  · unfold handleSn; simp [legal_of_active g _ h, mqttSend, emit]
  · unfold handleSn handlePingreq; simp [legal_of_active g _ h, mqttSend, emit, h]

/-- **C03.** PUBREC, PUBCOMP, UNSUBACK, PINGRESP: one MQTT-SN packet each, same message ID (a PINGRESP
    when no ping of the gateway itself is outstanding: `c03_own_ping_reply_swallowed`). -/
theorem c03_mq_simple (g : Gw) (h : g.st = .active) (mid : UInt16) (ho : g.ownPings = 0) :
    (g.handleMq (.pubrec mid)).outs = (g.now, Out.sn (encode (.pubrec mid))) :: g.outs ∧
    (g.handleMq (.pubcomp mid)).outs = (g.now, Out.sn (encode (.pubcomp mid))) :: g.outs ∧
    (g.handleMq (.unsuback mid)).outs = (g.now, Out.sn (encode (.unsuback mid))) :: g.outs ∧
    (g.handleMq .pingresp).outs = (g.now, Out.sn (encode .pingresp)) :: g.outs := by
  have sent := fun p => congrArg Gw.outs (snSend_awake g p none fun e => nomatch h.symm.trans e)
  refine ⟨sent _, sent _, sent _, ?_⟩
  unfold handleMq
  rw [if_neg (by rw [ho]; exact Nat.lt_irrefl 0), if_neg (not_not_intro h)]
  exact sent _

/-- **C03.** The broker's answer to a PINGREQ of the gateway itself (sleep pinger, `keepBrokerAlive`)
    is not the translation of anything the client sent: it is counted off and not passed on. -/
theorem c03_own_ping_reply_swallowed (g : Gw) (ho : g.ownPings > 0) :
    (g.handleMq .pingresp).outs = g.outs ∧ (g.handleMq .pingresp).ownPings = g.ownPings - 1 := by
  unfold handleMq; simp [ho]

/-- **C03.** A SUBSCRIBE with a usable filter: exactly one MQTT SUBSCRIBE with the same message
    ID, DUP flag, filter and requested QoS; the transaction stored under the message ID
    remembers the topic ID for the SUBACK. -/
theorem c03_subscribe (g : Gw) (dup : Bool) (q : UInt8) (mid : UInt16) (topic : Bytes) (tid : UInt16) (hne : topic ≠ []) :
    (g.forwardSubscribe dup q mid topic tid).outs = (g.now, Out.mq (.subscribe mid dup topic q)) :: g.outs ∧
    (g.forwardSubscribe dup q mid topic tid).byId = (mid, g.nextTx) :: g.byId ∧
    (g.forwardSubscribe dup q mid topic tid).txs =
      g.txs ++ [{ id := g.nextTx, kind := .subscribe tid, key := .byId mid, timer := some (g.now + g.cfg.retryDelay) }] := by
  unfold forwardSubscribe
  have : topic.isEmpty = false := List.isEmpty_eq_false_iff.mpr hne
  simp [this, mqttSend, emit, storeById, newTx]

/-- an empty filter is refused, nothing is forwarded -/
theorem c03_subscribe_empty (g : Gw) (dup : Bool) (q : UInt8) (mid tid : UInt16) :
    (g.forwardSubscribe dup q mid [] tid).outs = g.outs := fail_outs _ _

/-- **C03.** Filter and SUBACK topic ID by topic-ID type (requested QoS 0-2). -/
theorem c03_filter_wildcard (g : Gw) (dup : Bool) (q : UInt8) (mid tid : UInt16) (name : Bytes) (hq : ¬ q > 2)
    (hw : hasWildcard name = true) :
    g.handleSubscribe dup q Gen.TIT_STRING mid tid name = g.forwardSubscribe dup q mid name 0 := by
  unfold handleSubscribe; simp [hq, hw]

theorem c03_filter_predefined (g : Gw) (dup : Bool) (q : UInt8) (mid tid : UInt16) (name n : Bytes) (hq : ¬ q > 2)
    (hp : g.predefName tid = some n) :
    g.handleSubscribe dup q Gen.TIT_PREDEFINED mid tid name = g.forwardSubscribe dup q mid n tid := by
  unfold handleSubscribe
  have : ¬ (Gen.TIT_PREDEFINED = Gen.TIT_STRING) := by decide
  simp [hq, this, hp]

theorem c03_filter_short (g : Gw) (dup : Bool) (q : UInt8) (mid tid : UInt16) (name : Bytes) (hq : ¬ q > 2) :
    g.handleSubscribe dup q Gen.TIT_SHORT mid tid name = g.forwardSubscribe dup q mid (decodeShortTopic tid) 0 := by
  unfold handleSubscribe
  have h1 : ¬ (Gen.TIT_SHORT = Gen.TIT_STRING) := by decide
  have h2 : ¬ (Gen.TIT_SHORT = Gen.TIT_PREDEFINED) := by decide
  simp [hq, h1, h2]

theorem c03_unsubscribe (g : Gw) (mid : UInt16) (topic : Bytes) (hne : topic ≠ []) :
    (g.forwardUnsubscribe mid topic).outs = (g.now, Out.mq (.unsubscribe mid topic)) :: g.outs := by
  unfold forwardUnsubscribe
  have : topic.isEmpty = false := List.isEmpty_eq_false_iff.mpr hne
  simp [this, mqttSend, emit]

/-- **C03.** The SUBACK: accepted exactly for broker codes 0-2, with the granted QoS and the
    remembered topic ID. -/
theorem c03_suback (g : Gw) (h : g.st ≠ .asleep) (mid : UInt16) (hq c : UInt8) (t : Tx) (tid : UInt16)
    (hl : g.lookupById mid = some t) (hk : t.kind = .subscribe tid) :
    (g.handleMq (.suback mid hq [c])).outs =
      (g.now, Out.sn (encode (if c ≤ 2 then .suback c tid mid Gen.RC_ACCEPTED
                              else .suback 0 tid mid Gen.RC_NOT_SUPPORTED))) :: g.outs := by
  unfold handleMq
  simp only [hl, hk]
  split <;> simp [snSend, emit, h]

/-! ## every run: SUBSCRIBE / UNSUBSCRIBE / PUBREL are written to the broker only for the client's datagram
    of that type, at most one each (`Lemmas/GwWatch.lean`: `watched_unchanged`, `watched_bounded` at three watches) -/

def watchSubscribe : Watch where
  W := fun p => match p with | .subscribe .. => true | _ => false
  nPub := 0
  nSub := 1
  nUnsub := 0
  nRel := 0
  connect := fun f => by unfold ConnFields.toPkt; rfl
  pingreq := rfl
  disconnect := rfl
  puback := fun _ => rfl
  pubrec := fun _ => rfl
  pubcomp := fun _ => rfl
  publish := fun _ _ _ _ _ _ => Nat.le_refl _
  subscribe := fun _ _ _ _ => Nat.le_refl _
  unsubscribe := fun _ _ => Nat.le_refl _
  pubrel := fun _ => Nat.le_refl _

def watchUnsubscribe : Watch where
  W := fun p => match p with | .unsubscribe .. => true | _ => false
  nPub := 0
  nSub := 0
  nUnsub := 1
  nRel := 0
  connect := fun f => by unfold ConnFields.toPkt; rfl
  pingreq := rfl
  disconnect := rfl
  puback := fun _ => rfl
  pubrec := fun _ => rfl
  pubcomp := fun _ => rfl
  publish := fun _ _ _ _ _ _ => Nat.le_refl _
  subscribe := fun _ _ _ _ => Nat.le_refl _
  unsubscribe := fun _ _ => Nat.le_refl _
  pubrel := fun _ => Nat.le_refl _

def watchPubrel : Watch where
  W := fun p => match p with | .pubrel _ => true | _ => false
  nPub := 0
  nSub := 0
  nUnsub := 0
  nRel := 1
  connect := fun f => by unfold ConnFields.toPkt; rfl
  pingreq := rfl
  disconnect := rfl
  puback := fun _ => rfl
  pubrec := fun _ => rfl
  pubcomp := fun _ => rfl
  publish := fun _ _ _ _ _ _ => Nat.le_refl _
  subscribe := fun _ _ _ _ => Nat.le_refl _
  unsubscribe := fun _ _ => Nat.le_refl _
  pubrel := fun _ => Nat.le_refl _

/-- the MQTT SUBSCRIBE / UNSUBSCRIBE / PUBREL packets written so far -/
abbrev mqSubscribes (g : Gw) := watched watchSubscribe g
abbrev mqUnsubscribes (g : Gw) := watched watchUnsubscribe g
abbrev mqPubrels (g : Gw) := watched watchPubrel g

/-- 1 for a datagram that decodes as a SUBSCRIBE / UNSUBSCRIBE / PUBREL, 0 for every other event -/
abbrev subscribeDatagram (ev : Event) : Nat := wEvent watchSubscribe ev
abbrev unsubscribeDatagram (ev : Event) : Nat := wEvent watchUnsubscribe ev
abbrev pubrelDatagram (ev : Event) : Nat := wEvent watchPubrel ev

/-- **C03 (ALL runs).** In any reachable state, an event that is not a SUBSCRIBE datagram of the client — any other
    datagram, any broker packet, every timer and retransmission fired on the way, EOF, shutdown, the session
    end — writes no MQTT SUBSCRIBE; a SUBSCRIBE datagram adds at most one; over a run there are at most as many
    as SUBSCRIBE datagrams. -/
theorem c03_subscribe_only_for_subscribe_datagram (cfg : Cfg) (a b : UInt16) (hist : List (Nat × Event)) (t : Nat) (ev : Event)
    (hev : subscribeDatagram ev = 0) :
    mqSubscribes (((Gw.init cfg a b).run hist).step t ev) = mqSubscribes ((Gw.init cfg a b).run hist) :=
  watched_unchanged watchSubscribe cfg a b hist t ev hev
theorem c03_subscribes_bounded (cfg : Cfg) (a b : UInt16) (evs : List (Nat × Event)) :
    (mqSubscribes ((Gw.init cfg a b).run evs)).length ≤ (evs.map fun e => subscribeDatagram e.2).sum :=
  watched_bounded watchSubscribe cfg a b evs

/-- **C03 (ALL runs).** The same for UNSUBSCRIBE. -/
theorem c03_unsubscribe_only_for_unsubscribe_datagram (cfg : Cfg) (a b : UInt16) (hist : List (Nat × Event)) (t : Nat) (ev : Event)
    (hev : unsubscribeDatagram ev = 0) :
    mqUnsubscribes (((Gw.init cfg a b).run hist).step t ev) = mqUnsubscribes ((Gw.init cfg a b).run hist) :=
  watched_unchanged watchUnsubscribe cfg a b hist t ev hev
theorem c03_unsubscribes_bounded (cfg : Cfg) (a b : UInt16) (evs : List (Nat × Event)) :
    (mqUnsubscribes ((Gw.init cfg a b).run evs)).length ≤ (evs.map fun e => unsubscribeDatagram e.2).sum :=
  watched_bounded watchUnsubscribe cfg a b evs

/-- **C03 (ALL runs).** The same for the client's PUBREL (the gateway never retransmits one towards the broker). -/
theorem c03_pubrel_only_for_pubrel_datagram (cfg : Cfg) (a b : UInt16) (hist : List (Nat × Event)) (t : Nat) (ev : Event)
    (hev : pubrelDatagram ev = 0) :
    mqPubrels (((Gw.init cfg a b).run hist).step t ev) = mqPubrels ((Gw.init cfg a b).run hist) :=
  watched_unchanged watchPubrel cfg a b hist t ev hev
theorem c03_pubrels_bounded (cfg : Cfg) (a b : UInt16) (evs : List (Nat × Event)) :
    (mqPubrels ((Gw.init cfg a b).run evs)).length ≤ (evs.map fun e => pubrelDatagram e.2).sum :=
  watched_bounded watchPubrel cfg a b evs

/-- non-vacuity: which datagrams count -/
example : subscribeDatagram (.sn (encode (.subscribe false 1 0 7 0 [0x61]))) = 1 ∧
    subscribeDatagram (.sn (encode (.pingreq []))) = 0 ∧
    unsubscribeDatagram (.sn (encode (.unsubscribe 0 7 0 [0x61]))) = 1 ∧
    pubrelDatagram (.sn (encode (.pubrel 7))) = 1 ∧ pubrelDatagram (.sn (encode (.pubrec 7))) = 0 := by decide +kernel

end Bisquitt.Gw
