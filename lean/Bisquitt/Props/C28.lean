/-
  C28 — Client API calls always return and the client shuts down.

  In the client model a blocking API call is its synchronous prefix plus a waiter (`Wait`) that
  `settleOne` inspects at every instant.  Theorems, for ALL states:
  * `c28_returns_when_done`: a waiter whose transaction has ended returns at that instant and is
    not waiting any more;
  * `c28_returns_when_group_ended`: a waiter whose transaction has NOT ended returns the moment the
    client's goroutine group has ended — with an error, never nil (`c28_interrupted_not_ok`);
  * `c28_keeps_waiting`: a waiter stays blocked only while its transaction is unfinished
    and the group still runs;
  * `c28_retry_counts`: every expiry of a retry timer either uses up one unit of the budget or
    ends the transaction, and `c17_give_up` ends it once the budget is used up — with C19 this
    bounds every retry exchange by (RetryCount + 1) × RetryDelay; the CONNECT exchange is a timed
    transaction (`c28_connect_timeout`), the sleep exchange ends by its own timers
    (`c28_sleep_pingresp_bound`: at most `maxPingrespWait` after the wake-up);
  * `c28_group_ends`: once the group is cancelled the receive loop ends at its next read deadline
    (at most `readTimeout` later) and `done` is reported.
  Real time and goroutine exit are measured on the real client under the virtual clock
  (monitor `ClientSpec.c28`, goroutine census after the end).
-/
import Bisquitt.Props.C17

namespace Bisquitt.Cl
open Bisquitt Cl

/-- **C28.** -/
theorem c28_returns_when_done (c : Cl) (w : Wait) (t : Tx) (hw : w.kind = .plain) (hc : w.call ≠ "#keepalive")
    (ht : c.getTx w.tx = some t) (hd : t.done = true) (hn : w.committed = false) :
    (∃ o, (c.settleOne w).outs = (c.now, o) :: c.outs ∧ (o = .ret w.call t.err ∨ o = .retEither w.call t.err c.interrupted)) ∧
    (c.settleOne w).waits = c.waits := by
  rw [settleOne_done_plain c w t hw hc ht hd hn]
  exact ⟨⟨_, rfl, by split <;> simp⟩, rfl⟩

/-- **C28.** -/
theorem c28_returns_when_group_ended (c : Cl) (w : Wait) (t : Tx) (hw : w.kind = .plain) (hc : w.call ≠ "#keepalive")
    (ht : c.getTx w.tx = some t) (hd : t.done = false) (hg : c.groupDone = true) :
    (c.settleOne w).outs = (c.now, Out.ret w.call c.interrupted) :: c.outs ∧ (c.settleOne w).waits = c.waits := by
  unfold settleOne
  simp [ht, hd, hg, hw, hc, emit]

theorem c28_interrupted_not_ok (c : Cl) : c.interrupted ≠ .ok := by
  unfold interrupted; split <;> simp_all

/-- **C28.** A call keeps waiting only while its exchange is unfinished and the client runs. -/
theorem c28_keeps_waiting (c : Cl) (w : Wait) (t : Tx) (ht : c.getTx w.tx = some t) (hd : t.done = false)
    (hg : c.groupDone = false) :
    c.settleOne w = { c with waits := c.waits ++ [{ w with committed := w.committed || !c.alive }] } := by
  unfold settleOne
  simp [ht, hd, hg]

/-- **C28.** Each expiry of a retry timer with budget left uses up one unit of it (and
    `c17_give_up` ends the exchange once nothing is left). -/
theorem c28_retry_counts (c : Cl) (t : Tx) (p : Pkt) (hd : t.done = false) (hp : t.data = some p)
    (hb : t.retryNum + 1 ≤ c.cfg.rc) (ho : c.connClosed = false) :
    (c.fireTx t .retry).txs =
      (c.setTx { t with data := some (dupOf p), retryNum := t.retryNum + 1, timer := some (c.now + c.cfg.rd, .retry) }).txs := by
  rw [fireTx_retry_open c t p hd hp hb ho]; rfl

/-- **C28.** The CONNECT exchange is bounded by its own timer. -/
theorem c28_connect_timeout (c : Cl) (t : Tx) : c.fireTx t .timed = c.finishTx t.id .timeout := rfl

/-- **C28.** A sleeping client that gets no PINGRESP gives up `maxPingrespWait` after waking up. -/
theorem c28_sleep_pingresp_bound (c : Cl) (t : Tx) : c.fireTx t .pingrespWait = c.finishTx t.id .pingrespTimeout := rfl

/-- **C28.** Once the group is cancelled the receive loop ends at its next read deadline, and
    the end of the client is reported. -/
theorem c28_group_ends (c : Cl) (t : Nat) (h : c.alive = false) :
    (c.fireDue (.rxPoll t)).rxAlive = false ∧ (c.fireDue (.rxPoll t)).groupDone = true := by
  have h' : c.cancelledAt.isNone = false := h
  unfold fireDue groupDone alive
  simp [h']

end Bisquitt.Cl
