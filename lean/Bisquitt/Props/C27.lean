/-
  C27 — Client dispatch follows MQTT topic-filter matching.

  `specMatch` states MQTT 3.1.1 §4.7 positionally: find the first `#` level; the levels
  before it (all levels if there is none) must match the topic's levels one by one, `+`
  matching any single level; with `#` the topic may have any number (including zero) of
  further levels — so `sport/#` matches `sport` — and without `#` the level counts agree.
  Theorem: the code's recursive `match` equals it for ALL filters and topics (`c27_match`).  Then, for the client
  model: a PUBLISH runs the callback of the first stored subscription whose filter matches, and none if none does
  (`c27_dispatch`, `c27_no_match_no_callback`); a filter removed from the list is not found again (`c27_unsubscribed`).
-/
import Bisquitt.Spec.Match
import Bisquitt.Model.Client
import Bisquitt.Lemmas.Assoc

namespace Bisquitt

theorem specMatch_nil (t : List Bytes) : specMatch [] t = t.isEmpty := by
  cases t <;> simp [specMatch]

theorem specMatch_hash (rs t : List Bytes) : specMatch (hashLevel :: rs) t = true := by
  simp [specMatch, List.findIdx_cons]

theorem specMatch_cons_nil {r : Bytes} (rs : List Bytes) (hr : (r == hashLevel) = false) :
    specMatch (r :: rs) [] = false := by
  simp only [specMatch, List.findIdx_cons, hr, cond_false]
  split <;> simp

/-- the recursion of the code's `match`, read off the positional specification -/
theorem specMatch_cons_cons {r : Bytes} (rs : List Bytes) (x : Bytes) (ts : List Bytes) (hr : (r == hashLevel) = false) :
    specMatch (r :: rs) (x :: ts) = (levelOk r x && specMatch rs ts) := by
  simp only [specMatch, List.findIdx_cons, hr, cond_false, List.length_cons, Nat.add_lt_add_iff_right,
    Nat.add_le_add_iff_right, Nat.add_right_cancel_iff, List.take_succ_cons, List.zip_cons_cons, List.all_cons]
  -- with or without a `#` further on, the two sides differ in the order of the conjuncts only
  split <;> exact Bool.and_left_comm ..

/-- **C27 (matching).** -/
theorem c27_match : ∀ (f t : List Bytes), matchRoute f t = specMatch f t := by
  intro f t
  induction f, t using matchRoute.induct with
  | case1 t => rw [matchRoute, specMatch_nil]
  | case2 r rs =>
    rw [matchRoute]
    cases hr : r == hashLevel
    · rw [specMatch_cons_nil rs hr]
    · rw [eq_of_beq hr, specMatch_hash]
  | case3 r rs x ts hr => rw [matchRoute, if_pos hr, eq_of_beq hr, specMatch_hash]
  | case4 r rs x ts hr hl ih =>
    rw [matchRoute, if_neg hr, if_pos hl, ih, specMatch_cons_cons rs x ts (eq_false_of_ne_true hr), levelOk, hl,
      Bool.true_and]
  | case5 r rs x ts hr hl =>
    rw [matchRoute, if_neg hr, if_neg hl, specMatch_cons_cons rs x ts (eq_false_of_ne_true hr), levelOk,
      eq_false_of_ne_true hl, Bool.false_and]

/-- examples from the MQTT 3.1.1 text, with `s` for the level "sport", `f` for "finance":
    sport/# ~ sport;  sport/+ ~ sport/ ;  sport/+ !~ sport;  +/+ ~ /finance;  + !~ /finance;
    and `splitTopic` keeps empty levels. -/
example : specMatch [[0x73], hashLevel] [[0x73]] = true := by decide +kernel
example : specMatch [[0x73], plusLevel] [[0x73], []] = true := by decide +kernel
example : specMatch [[0x73], plusLevel] [[0x73]] = false := by decide +kernel
example : specMatch [plusLevel, plusLevel] [[], [0x66]] = true := by decide +kernel
example : specMatch [plusLevel] [[], [0x66]] = false := by decide +kernel
example : splitTopic [0x73, 0x2F] = [[0x73], []] ∧ splitTopic [0x2F, 0x66] = [[], [0x66]] ∧
    splitTopic [] = [[]] := by decide +kernel

/-! ### the history half: which callback runs (client model) -/

namespace Cl
open Cl

/-- **C27 (dispatch).** Every callback that may run for a topic belongs to a stored subscription
    whose filter matches the topic under the MQTT rules (`specMatch`, via `c27_match`). -/
theorem c27_dispatch (c : Cl) (topic label : Bytes) (h : label ∈ c.matching topic) :
    ∃ filter, (filter, label) ∈ c.handlers ∧ c.handlers.lookup filter = some label ∧
      specMatch (splitTopic filter) (splitTopic topic) = true := by
  obtain ⟨k, _, hk⟩ := List.mem_filterMap.mp h
  cases hl : c.handlers.lookup k with
  | none => simp [hl] at hk
  | some l =>
    simp only [hl] at hk
    split at hk
    · rename_i hm
      cases hk
      exact ⟨k, mem_of_lookup_eq_some hl, hl, by rw [← c27_match]; exact hm⟩
    · cases hk

/-- **C27.** Nothing is dispatched when no stored filter matches. -/
theorem c27_no_match_no_callback (c : Cl) (topic : Bytes) (q : UInt8) (r : Bool) (d : Bytes)
    (h : c.matching topic = []) : c.deliver topic q r d = c := by
  unfold deliver; simp [h]

/-- **C27 (unsubscribe).** Once UNSUBACK has been processed for a filter, no subscription with
    that filter is stored any more, so its callback can never be chosen again (until a new
    Subscribe succeeds). -/
theorem c27_unsubscribed (hs : List (Bytes × Bytes)) (n : Bytes) :
    (hs.filter (·.1 != n)).lookup n = none := by
  rw [lookup_filter_ne, if_pos rfl]

end Cl

end Bisquitt
