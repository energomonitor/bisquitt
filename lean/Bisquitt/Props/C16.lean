/-
  C16 — QoS 1/2 delivery to clients survives datagram loss.

  Gateway half: theorems about the model's broker-publish transaction, for ALL states:
  * `c16_setDup`: a retransmission is the stored packet with only the DUP flag set — same type,
    QoS, retain flag, topic ID, message ID and payload;
  * `c16_retry_resends`: a retry-timer expiry on an unfinished exchange that has retries left
    sends exactly that packet, counts the retry and re-arms the timer one RetryDelay ahead;
  * `c16_retry_gives_up`: after RetryCount unanswered retransmissions the expiry sends nothing
    and finishes the transaction (the timing of the budget is C19, `c19_retry`);
  * `c16_puback` / `c16_pubrec` / `c16_pubrel` / `c16_pubcomp`: in the state that awaits it, each
    acknowledgement is relayed once with the same message ID and moves the exchange on; in any
    other state (a duplicate after loss) it is ignored — so the broker sees each once.
  * **all runs** — `c16_retry_counter_bounded`: in EVERY reachable state the retry counter of every
    gateway-initiated exchange is at most RetryCount (invariant `AllB`, frame `fbFrame` of `Lemmas/GwRetry.lean`
    carried through every model function by the walk of `Lemmas/GwFrame.lean`): no step is ever retransmitted more
    than RetryCount times.
  The monitor `Spec.c16` checks the retransmission rules on every implementation trace.

  CLIENT HALF (the client model, ALL states) — "the client's handler run exactly once".  Where a theorem needs the
  client's bookkeeping (a store entry points at a stored transaction: `lookupByIdB … = some t`; ids in use are below
  `nextTx`: `getTx c.nextTx = none`) it takes it as a hypothesis: that every reachable state of the client model has it
  is not proved (the client model has no counterpart of the gateway's `I9`):
  * `c16_client_publish2_silent`: a QoS-2 PUBLISH — the first one or a retransmission — never
    runs a handler;
  * `c16_client_publish2_opens`: the first one opens an exchange under its message ID;
  * `c16_client_pubrel_once`: the PUBREL of an open exchange runs the delivery once, answers with
    PUBCOMP and forgets the exchange;
  * `c16_client_pubrel_unknown_silent` / `c16_client_second_pubrel_silent`: a PUBREL for which no
    exchange is open (a retransmission after the exchange ended) runs no handler (it is answered all
    the same: `c17_pubrel_answered`).
  The monitor `ClientSpec.c16` states the whole-session form (a QoS-2 handler run is covered by
  exactly one PUBREL of an open exchange) on traces of the real client.
-/
import Bisquitt.Lemmas.Client
import Bisquitt.Lemmas.Assoc
import Bisquitt.Lemmas.GwRetry

namespace Bisquitt.Gw
open Bisquitt Gw

/-- **C16.** What a retransmission changes. -/
theorem c16_setDup (dup : Bool) (q : UInt8) (r : Bool) (tit : UInt8) (t m : UInt16) (d : Bytes) :
    setDup (.publish dup q r tit t m d) = .publish true q r tit t m d ∧
    (∀ tid mid name, setDup (.register tid mid name) = .register tid mid name) ∧
    (∀ mid, setDup (.pubrel mid) = .pubrel mid) := ⟨rfl, fun _ _ _ => rfl, fun _ => rfl⟩

/-- **C16.** A retry with budget left: the same packet with DUP, retry counted, timer re-armed. -/
theorem c16_retry_resends (g : Gw) (t : Tx) (q : UInt8) (st : BpSt) (p : Pkt) (snp : Option Pkt) (n : Nat)
    (hk : t.kind = .brokerPub q st (.sn p) snp n) (hd : t.done = false) (hb : n + 1 ≤ g.cfg.retryCount)
    (hs : g.st ≠ .asleep) :
    (g.retryExpire t).outs = (g.now, Out.sn (encode (setDup p))) :: g.outs ∧
    (g.retryExpire t).txs =
      (g.setTx { t with kind := .brokerPub q st (.sn (setDup p)) snp (n + 1),
                        timer := some (g.now + g.cfg.retryDelay) }).txs := by
  unfold retryExpire
  simp only [hk, hd, Bool.false_eq_true, if_false, Nat.not_lt.mpr hb, hs, false_and, snSend, setTx]
  exact ⟨rfl, rfl⟩

/-- **C16.** Budget used up: nothing is sent, the transaction ends. -/
theorem c16_retry_gives_up (g : Gw) (t : Tx) (q : UInt8) (st : BpSt) (data : BpData) (snp : Option Pkt) (n : Nat)
    (hk : t.kind = .brokerPub q st data snp n) (hd : t.done = false) (hb : n + 1 > g.cfg.retryCount)
    (hs : ¬ (g.st = .asleep ∧ data.toClient = true)) :
    g.retryExpire t = g.finishTx t.id ∧ (g.retryExpire t).outs = g.outs := by
  unfold retryExpire
  simp only [hk, hd, Bool.false_eq_true, if_false, hb, if_true, hs]
  exact ⟨trivial, finishTx_outs g t.id⟩

/-- **C16.** While the client sleeps, an exchange that waits for the client neither retransmits nor
    uses up its retries: the timer is re-armed, nothing else changes (the packet waits in the queue). -/
theorem c16_retry_suspended_while_asleep (g : Gw) (t : Tx) (q : UInt8) (st : BpSt) (p : Pkt) (snp : Option Pkt) (n : Nat)
    (hk : t.kind = .brokerPub q st (.sn p) snp n) (hd : t.done = false) (hs : g.st = .asleep) :
    g.retryExpire t = g.setTx { t with timer := some (g.now + g.cfg.retryDelay) } := by
  unfold retryExpire
  simp [hk, hd, hs, BpData.toClient]

/-- **C16.** The client's PUBACK for a QoS-1 exchange awaiting it: one MQTT PUBACK, same ID. -/
theorem c16_puback (g : Gw) (h : g.st = .active) (tid mid : UInt16) (t : Tx) (d : BpData) (snp : Option Pkt) (n : Nat)
    (hl : g.lookupByIdB mid = some t) (hk : t.kind = .brokerPub 1 .awaitingPuback d snp n) :
    g.handleSn (.puback tid mid Gen.RC_ACCEPTED) = g.proceedMQ t.id .done (.puback mid) := by
  unfold handleSn
  simp [legal_of_active g _ h, hl, hk]

/-- … and a duplicate (any other state of the exchange) is ignored -/
theorem c16_puback_dup (g : Gw) (h : g.st = .active) (tid mid : UInt16) (rc : UInt8) (t : Tx) (st : BpSt) (d : BpData)
    (snp : Option Pkt) (n : Nat) (hl : g.lookupByIdB mid = some t) (hk : t.kind = .brokerPub 1 st d snp n)
    (hst : st ≠ .awaitingPuback) : g.handleSn (.puback tid mid rc) = g := by
  unfold handleSn
  simp [legal_of_active g _ h, hl, hk, hst]

theorem c16_pubrec (g : Gw) (h : g.st = .active) (mid : UInt16) (t : Tx) (st : BpSt) (d : BpData) (snp : Option Pkt) (n : Nat)
    (hl : g.lookupByIdB mid = some t) (hk : t.kind = .brokerPub 2 st d snp n) :
    g.handleSn (.pubrec mid) =
      if st ≠ .awaitingPubrec then g else g.proceedMQ t.id .awaitingPubrel (.pubrec mid) := by
  unfold handleSn
  simp [legal_of_active g _ h, hl, hk]

theorem c16_pubrel (g : Gw) (mid : UInt16) (t : Tx) (st : BpSt) (d : BpData) (snp : Option Pkt) (n : Nat)
    (hl : g.lookupByIdB mid = some t) (hk : t.kind = .brokerPub 2 st d snp n) :
    g.handleMq (.pubrel mid) =
      if st ≠ .awaitingPubrel then g else g.proceedSN t.id .awaitingPubcomp (.pubrel mid) := by
  unfold handleMq
  simp [hl, hk]

theorem c16_pubcomp (g : Gw) (h : g.st = .active) (mid : UInt16) (t : Tx) (st : BpSt) (d : BpData) (snp : Option Pkt) (n : Nat)
    (hl : g.lookupByIdB mid = some t) (hk : t.kind = .brokerPub 2 st d snp n) :
    g.handleSn (.pubcomp mid) =
      if st ≠ .awaitingPubcomp then g else g.proceedMQ t.id .done (.pubcomp mid) := by
  unfold handleSn
  simp [legal_of_active g _ h, hl, hk]

/-- **C16 (ALL runs, gateway half).** In every reachable state every gateway-initiated exchange has made at most
    RetryCount retransmissions of its current step: the counter `c16_retry_resends` increments never exceeds the
    configured budget, whatever the client, the broker and the clock do (`c16_retry_gives_up`: when it is used up
    the expiry sends nothing and the exchange ends). -/
theorem c16_retry_counter_bounded (cfg : Cfg) (a b : UInt16) (evs : List (Nat × Event)) (t : Tx)
    (ht : t ∈ ((Gw.init cfg a b).run evs).txs) (q : UInt8) (st : BpSt) (d : BpData) (snp : Option Pkt) (n : Nat)
    (hk : t.kind = .brokerPub q st d snp n) : n ≤ cfg.retryCount :=
  (Fr.run_init (fbSites cfg) (fbConn cfg) evs (fun e _ => Frame.admitsEv_all (fbAdmits cfg) trivial e.2) a b trivial trivial).1.txs
    t ht q st d snp n hk

/-- non-vacuity: RetryDelay 200 ms, RetryCount 2; a QoS-1 message from the broker is never acknowledged by the client:
    500 ms later the exchange has made its two retransmissions (counter at the bound), later it is finished -/
example :
    let g := (Gw.init ⟨false, none, none, 200, 2, []⟩ 1 10).run
      [(100, .sn (encode (.connect false true 1 60 [0x63]))), (200, .mq (.connack 0)),
       (300, .mq (.publish false 1 false 5 [0x61, 0x62] [0x42])), (800, .tick)]
    (g.txs.filterMap fun t => match t.kind with | .brokerPub q _ _ _ n => some (q, n, t.done) | _ => none) = [(1, 2, false)] ∧
    ((g.run [(2000, .tick)]).txs.filterMap fun t => match t.kind with | .brokerPub q _ _ _ n => some (q, n, t.done) | _ => none) =
      [(1, 2, true)] := by decide +kernel

end Bisquitt.Gw

namespace Bisquitt.Cl
open Bisquitt Cl

def isHandlerOut (o : Nat × Out) : Bool := match o.2 with | .handler .. => true | _ => false
/-- the callback invocations so far -/
def handlerOuts (c : Cl) : List (Nat × Out) := c.outs.filter isHandlerOut

theorem handlerOuts_of_outs {c c' : Cl} (h : c'.outs = c.outs) : handlerOuts c' = handlerOuts c := by
  unfold handlerOuts; rw [h]

theorem emit_sn_handlerOuts (c : Cl) (b : Bytes) : handlerOuts (c.emit (.sn b)) = handlerOuts c := by
  simp [handlerOuts, emit, isHandlerOut]

theorem sendOrFail_handlerOuts (c : Cl) (p : Pkt) : handlerOuts (c.sendOrFail p) = handlerOuts c := by
  by_cases h : c.connClosed = true
  · rw [sendOrFail_closed c p h]
    exact handlerOuts_of_outs (by rw [rxFail_frame])
  · rw [sendOrFail_open c p (Bool.not_eq_true _ ▸ h)]
    exact emit_sn_handlerOuts c _

theorem setTx_outs (c : Cl) (t : Tx) : (c.setTx t).outs = c.outs := rfl

/-- **C16 (client).** A QoS-2 PUBLISH, first or retransmitted, runs no handler. -/
theorem c16_client_publish2_silent (c : Cl) (dup retain : Bool) (tit : UInt8) (tid mid : UInt16) (data : Bytes) :
    handlerOuts (c.handlePacket (.publish dup 2 retain tit tid mid data)) = handlerOuts c := by
  dsimp only [handlePacket]
  rw [if_pos rfl]
  -- found or created, the exchange is stored without output; the only output is the PUBREC
  cases c.byIdB.lookup mid
  all_goals
    split
    · split
      · rw [sendOrFail_handlerOuts]; rfl
      · rfl
    · rfl

/-- **C16 (client).** The first QoS-2 PUBLISH of a message ID opens an exchange under that ID
    (and is answered with PUBREC). -/
theorem c16_client_publish2_opens (c : Cl) (dup retain : Bool) (tit : UInt8) (tid mid : UInt16) (data : Bytes)
    (hnew : c.byIdB.lookup mid = none) (hfresh : c.getTx c.nextTx = none) (ho : c.connClosed = false) :
    let c' := c.handlePacket (.publish dup 2 retain tit tid mid data)
    ∃ t, c'.lookupByIdB mid = some t ∧ t.kind = .brokerPub2 (.publish dup 2 retain tit tid mid data) ∧
      t.key = .byIdB mid ∧ t.done = false ∧
      c'.outs = (c.now, Out.sn (encode (.pubrec mid))) :: c.outs := by
  rw [handlePacket_publish2_new c dup retain tit tid mid data hnew hfresh, sendOrFail_open]
  · unfold store newTx
    exact ⟨_, Option.bind_eq_some_iff.mpr ⟨c.nextTx, (lookup_cons_ite ..).trans (if_pos rfl), getTx_newTx c _ _ hfresh⟩,
      rfl, rfl, rfl, rfl⟩
  · exact ho

/-- **C16 (client).** The PUBREL of an open exchange: the message is delivered (one callback
    invocation at most, none if no subscription matches), PUBCOMP is sent, the exchange is forgotten. -/
theorem c16_client_pubrel_once (c : Cl) (mid : UInt16) (t : Tx) (dup r : Bool) (q tit : UInt8) (tid m : UInt16)
    (data topic : Bytes)
    (hl : c.lookupByIdB mid = some t) (hk : t.kind = .brokerPub2 (.publish dup q r tit tid m data))
    (hkey : t.key = .byIdB mid) (hd : t.done = false) (htopic : c.topicFor tit tid = some topic)
    (ho : c.connClosed = false) :
    let c' := c.handlePacket (.pubrel mid)
    handlerOuts c' = handlerOuts (c.deliver topic q r data) ∧
    (handlerOuts c').length ≤ (handlerOuts c).length + 1 ∧
    c'.lookupByIdB mid = none := by
  obtain ⟨hlk, hget⟩ := lookupByIdB_spec hl
  dsimp only [handlePacket]
  simp only [hl, hk, htopic]
  rw [send_open _ _ (by rw [deliver_frame]; exact ho)]
  rw [if_pos rfl]
  -- the state is `((c.deliver ..).emit PUBCOMP).finishTx t.id .ok`: only `deliver` can run a callback
  have h1 := (handlerOuts_of_outs (finishTx_outs _ t.id .ok)).trans (emit_sn_handlerOuts (c.deliver topic q r data) (encode (.pubcomp mid)))
  refine ⟨h1, ?_, ?_⟩
  · rw [h1]
    unfold deliver
    dsimp only
    split
    · exact Nat.le_succ _
    · exact Nat.le_of_eq rfl
  · -- `deliver` and `emit` leave the stores alone, so `t` is still the exchange stored under `mid`
    rw [finishTx_live (by rw [deliver_frame]; exact hget) hd]
    refine runFinally_lookupByIdB hkey ?_
    rw [deliver_frame]
    dsimp only [emit]
    exact hlk

/-- **C16 (client).** A PUBREL for which no exchange is open (a retransmission after the end of
    the exchange) runs no handler. -/
theorem c16_client_pubrel_unknown_silent (c : Cl) (mid : UInt16) (hl : c.lookupByIdB mid = none) :
    handlerOuts (c.handlePacket (.pubrel mid)) = handlerOuts c := by
  dsimp only [handlePacket]
  rw [hl]
  exact sendOrFail_handlerOuts c _

/-- **C16 (client).** Exactly once: after the PUBREL of an open exchange, a retransmitted PUBREL
    of the same message ID runs no handler any more. -/
theorem c16_client_second_pubrel_silent (c : Cl) (mid : UInt16) (t : Tx) (dup r : Bool) (q tit : UInt8) (tid m : UInt16)
    (data topic : Bytes)
    (hl : c.lookupByIdB mid = some t) (hk : t.kind = .brokerPub2 (.publish dup q r tit tid m data))
    (hkey : t.key = .byIdB mid) (hd : t.done = false) (htopic : c.topicFor tit tid = some topic)
    (ho : c.connClosed = false) :
    handlerOuts ((c.handlePacket (.pubrel mid)).handlePacket (.pubrel mid)) = handlerOuts (c.handlePacket (.pubrel mid)) :=
  c16_client_pubrel_unknown_silent _ mid (c16_client_pubrel_once c mid t dup r q tit tid m data topic hl hk hkey hd htopic ho).2.2

/-! Non-vacuity: a concrete client with one subscription receives a QoS-2 PUBLISH twice (a
    retransmission) and the PUBREL twice: the hypotheses of `c16_client_pubrel_once` are met after
    the PUBLISH, and the callback runs exactly once. -/
def c16Client0 : Cl :=
  { cfg := { cid := [0x63], user := none, pass := [], ka := 0, ct := 1000, rd := 1000, rc := 2, clean := true,
             will := none, predef := [] },
    st := .active, handlers := [([0x61, 0x62], [0x61, 0x62])] }
def c16Pub2 : Pkt := .publish false 2 false Gen.TIT_SHORT 0x6162 7 [1, 2, 3]

example : ((c16Client0.handlePacket c16Pub2).lookupByIdB 7).map (fun t => (t.kind, t.key, t.done)) =
    some (.brokerPub2 c16Pub2, .byIdB 7, false) ∧
    (c16Client0.handlePacket c16Pub2).topicFor Gen.TIT_SHORT 0x6162 = some [0x61, 0x62] ∧
    (c16Client0.handlePacket c16Pub2).connClosed = false := by decide +kernel
example : (handlerOuts (c16Client0.handlePacket c16Pub2)).length = 0 ∧
    (handlerOuts (((c16Client0.handlePacket c16Pub2).handlePacket c16Pub2).handlePacket (.pubrel 7))).length = 1 ∧
    (handlerOuts ((((c16Client0.handlePacket c16Pub2).handlePacket c16Pub2).handlePacket (.pubrel 7)).handlePacket
      (.pubrel 7))).length = 1 := by decide +kernel

end Bisquitt.Cl
