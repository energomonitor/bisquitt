/-
  C22 — Decoded packets faithfully reflect the datagram.

  `c22_fields`: whenever the model decoder accepts a datagram, the packet type and every field
  equal the independent positional reading `Spec.refParse` (offsets counted after the *actual*
  header: 4 bytes iff the first byte is 0x01).
  The other half of C22 (re-encoding reproduces type and body up to `Spec.normBody`) has no
  theorem: it is checked by the monitor `Spec.c22ok` on every datagram the real decoder accepts.
-/
import Bisquitt.Lemmas.WireReads

namespace Bisquitt
open Gen Spec

/-- **C22, part 1.** -/
theorem c22_fields {bs : Bytes} {h : Header} {p : Pkt} (hd : decode bs = .ok (h, p)) :
    refParse bs = some p := (decode_reads bs).of_ok hd

/-- non-vacuity, on the datagram that the unfixed decoder mis-read (long form, length 5):
    the body starts after 4 header bytes. -/
example : decode [0x01, 0x00, 0x05, 0x05, 0x03] =
    .ok ({ pktLength := 5, pktType := 5, long := true }, .connack 3) := by decide +kernel
example : refParse [0x01, 0x00, 0x05, 0x05, 0x03] = some (.connack 3) := by decide +kernel

end Bisquitt
