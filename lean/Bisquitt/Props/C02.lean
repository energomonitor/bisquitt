/-
  C02 — Broker PUBLISH reaches the client under a topic ID it can resolve.

  Theorems about the model's broker-PUBLISH handler, for ALL states and field values:
  * `c02_resolves`: whenever the gateway picks a topic ID and type for a broker topic name
    (`brokerTopicId`), that (type, ID) denotes exactly this name — by short-name decoding, by the
    session's registry, or by the predefined configuration as THIS client reads it (through the
    C05 theorem `c05_id_sound`, so shadowed "*" entries are never used);
  * `c02_direct`: with a known ID a QoS-0 message is relayed at once as one PUBLISH with the same
    payload, QoS, retain flag and that ID;
  * `c02_register_first`: with no ID yet, nothing but a REGISTER for that name (under the ID reserved
    for it — a freshly allocated one, C04, where there was none) is sent, and the PUBLISH is parked with the new ID and the same payload,
    QoS and retain flag; `c02_after_regack`: the accepted REGACK binds the ID and releases
    exactly the parked PUBLISH;
  * `c02_dropped`: only messages that cannot be relayed at all (longer than MaxPayloadLength,
    empty topic name) are dropped, silently.
  The whole-session statement (the client's own knowledge from the REGISTERs / REGACKs / SUBACKs
  it has seen) is checked by the monitor `Spec.c02` on implementation traces.
-/
import Bisquitt.Props.C05
import Bisquitt.Lemmas.GwFrame
import Bisquitt.Props.C21

namespace Bisquitt.Gw
open Bisquitt Gw

/-- **C02.** The (type, ID) the gateway chooses denotes exactly the broker's topic name. -/
theorem c02_resolves (g : Gw) (topic : Bytes) (tid : UInt16) (tit : UInt8) (h : g.brokerTopicId topic = some (tid, tit)) :
    (tit = Gen.TIT_SHORT ∧ decodeShortTopic tid = topic) ∨
    (tit = Gen.TIT_REGISTERED ∧ g.registered.lookup tid = some topic) ∨
    (tit = Gen.TIT_PREDEFINED ∧ g.cfg.predef.getTopicName g.clientId tid = some topic) := by
  unfold brokerTopicId at h
  split at h
  · rename_i hs
    cases h
    exact .inl ⟨rfl, c21_short_name topic (by simpa [isShortTopic] using hs)⟩
  · split at h
    · rename_i id hid
      cases h
      exact .inr (.inl ⟨rfl, findRegisteredId_sound hid⟩)
    · split at h
      · rename_i id hid
        cases h
        exact .inr (.inr ⟨rfl, c05_id_sound _ _ _ _ (List.mem_of_mem_head? hid)⟩)
      · cases h

/-- **C02.** A QoS-0 message under a known ID: one PUBLISH, same payload / retain, that ID. -/
theorem c02_direct (g : Gw) (dup retain : Bool) (mid tid : UInt16) (tit : UInt8) (topic payload : Bytes)
    (hl : payload.length ≤ Gen.MaxPayloadLength ∧ topic.length ≤ Gen.MaxPayloadLength) (hne : topic ≠ [])
    (hb : g.brokerTopicId topic = some (tid, tit)) (hs : g.st ≠ .asleep) :
    (g.handleBrokerPublish dup 0 retain mid topic payload).outs =
      (g.now, Out.sn (encode (.publish dup 0 retain tit tid mid payload))) :: g.outs := by
  unfold handleBrokerPublish
  have h1 : ¬ (payload.length > Gen.MaxPayloadLength ∨ topic.length > Gen.MaxPayloadLength) :=
    fun h => h.elim (Nat.not_lt.mpr hl.1) (Nat.not_lt.mpr hl.2)
  have h2 : topic.isEmpty = false := List.isEmpty_eq_false_iff.mpr hne
  simp only [h1, if_false, h2, Bool.false_eq_true, hb]
  simp [snSend, hs, emit]

/-- **C02.** Only what cannot be relayed is dropped. -/
theorem c02_dropped (g : Gw) (dup retain : Bool) (q : UInt8) (mid : UInt16) (topic payload : Bytes)
    (h : payload.length > Gen.MaxPayloadLength ∨ topic.length > Gen.MaxPayloadLength ∨ topic = []) :
    g.handleBrokerPublish dup q retain mid topic payload = g := by
  unfold handleBrokerPublish
  rcases h with h | h | h
  · simp [h]
  · simp [h]
  · subst h; simp

/-- **C02.** No ID yet (QoS 1/2): REGISTER for that name first, the PUBLISH is parked under the new ID. -/
theorem c02_register_first (g g' : Gw) (dup retain : Bool) (q : UInt8) (mid newId : UInt16) (topic payload : Bytes)
    (hl : payload.length ≤ Gen.MaxPayloadLength ∧ topic.length ≤ Gen.MaxPayloadLength) (hne : topic ≠ [])
    (hb : g.brokerTopicId topic = none) (hq : q = 1 ∨ q = 2) (ha : g.registrationTopicId topic = (some newId, g')) :
    g.handleBrokerPublish dup q retain mid topic payload =
      g'.startBrokerPub q mid .awaitingRegack (some (.publish dup q retain 0 newId mid payload)) .awaitingRegack
        (.register newId mid topic) := by
  unfold handleBrokerPublish
  have h1 : ¬ (payload.length > Gen.MaxPayloadLength ∨ topic.length > Gen.MaxPayloadLength) :=
    fun h => h.elim (Nat.not_lt.mpr hl.1) (Nat.not_lt.mpr hl.2)
  have h2 : topic.isEmpty = false := List.isEmpty_eq_false_iff.mpr hne
  have hq0 : ¬ q = 0 := by rcases hq with rfl | rfl <;> decide
  have hq2 : ¬ q > 2 := by rcases hq with rfl | rfl <;> decide
  simp only [h1, if_false, h2, Bool.false_eq_true, hb, bpMsgId, hq0, hq2, ha]

/-- **C02.** The accepted REGACK binds the ID to the name and releases the parked PUBLISH. -/
theorem c02_after_regack (g : Gw) (t : Tx) (q : UInt8) (tid m : UInt16) (name : Bytes) (pub : Pkt) :
    g.bpRegack t q .awaitingRegack (.sn (.register tid m name)) (some pub) Gen.RC_ACCEPTED =
      (g.storeRegistered tid name).proceedSN t.id
        (if q = 0 then .done else if q = 1 then .awaitingPuback else .awaitingPubrec) pub := by
  unfold bpRegack; simp

/-- … and a refused REGACK releases nothing -/
theorem c02_regack_refused (g : Gw) (t : Tx) (q rc : UInt8) (data : BpData) (snp : Option Pkt) (h : rc ≠ Gen.RC_ACCEPTED) :
    (g.bpRegack t q .awaitingRegack data snp rc).outs = g.outs ∧
    (g.bpRegack t q .awaitingRegack data snp rc).registered = g.registered := by
  unfold bpRegack
  simp only [ne_eq, not_true_eq_false, if_false, h, not_false_eq_true, if_true]
  exact ⟨finishTx_outs _ _, congrArg TopicTables.registered (tb_of_fr (Fr.finishTx _ _))⟩

end Bisquitt.Gw
