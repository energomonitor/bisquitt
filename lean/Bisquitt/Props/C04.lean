/-
  C04 — Topic IDs are unique per session and never reassigned.

  Theorems about the model's topic-ID allocator (`newTopicID` in handler1.go: the ID sequence,
  the skip over predefined IDs, the sticky exhaustion flag), for ALL states:
  * `c04_not_predefined`: an ID handed out never collides with a predefined topic ID visible
    to this client;
  * `c04_increasing`: the IDs handed out are strictly increasing — the ID handed out is at least
    the sequence position before the call and the position afterwards is beyond it, unless the
    sequence wrapped; so an ID is never handed out twice;
  * `c04_after_wrap` / `c04_exhausted_sticky`: once the sequence has wrapped, every further
    request is refused and the allocator stays exhausted — no ID is ever reused;
  * `c04_allocs`: however many allocations are requested, the IDs handed out are strictly increasing and inside
    the range;
  * `c04_refusal_codes`: a refused registration is answered with a non-accepted return code.
  * **all runs** — `c04_never_reassigned`: whatever the client and the broker send, in any order and with
    any timing (REGISTERs, SUBSCRIBEs, REGACKs for the gateway's own registrations — stray or repeated
    ones too —, broker messages on new topics, exhaustion, everything else, every timer), a TopicID
    that denotes a name in the gateway's registry at some point of a session denotes the same name at
    every later point (invariant `K`, carried through every model function by the walk of `Lemmas/GwFrame.lean`
    at the frame `f4Frame`: `F4.run`).
  The monitor `Spec.c04` checks the same on the registry samples of every implementation trace.
-/
import Bisquitt.Lemmas.GwFrame
import Bisquitt.Lemmas.Tables

/-- `Next` returns the position and the flag as they stand -/
theorem Bisquitt.IdSeq.step_eq (s : Bisquitt.IdSeq) : s.step = ((s.next, s.overflow), s.step.2) := by
  unfold Bisquitt.IdSeq.step; split <;> rfl

namespace Bisquitt.Gw
open Bisquitt Gw

/-- **C04.** Exhaustion is sticky: nothing is handed out any more. -/
theorem c04_exhausted_sticky (g : Gw) (h : g.exhausted = true) : g.newTopicId = (none, g) := by
  unfold newTopicId; simp [h]

theorem newTopicId_cases (g : Gw) :
    (∃ s', g.newTopicId = (none, { g with idseq := s', exhausted := true })) ∨
    (g.exhausted = false ∧ g.idseq.overflow = false ∧ ∃ id s',
      g.newTopicIdLoop (g.idseq.max.toNat - g.idseq.min.toNat + 2) g.idseq.next g.idseq.step.2 = (some id, s') ∧
      g.newTopicId = (some id, { g with idseq := s' })) := by
  cases he : g.exhausted
  · unfold newTopicId
    rw [IdSeq.step_eq, he]
    dsimp only
    cases ho : g.idseq.overflow
    · cases hl : g.newTopicIdLoop (g.idseq.max.toNat - g.idseq.min.toNat + 2) g.idseq.next g.idseq.step.2 with
      | mk r s' => cases r with
        | none => exact .inl ⟨s', rfl⟩
        | some id => exact .inr ⟨rfl, rfl, id, s', rfl, rfl⟩
    · exact .inl ⟨_, rfl⟩
  · exact .inl ⟨g.idseq, by rw [c04_exhausted_sticky g he, ← he]⟩

theorem newTopicId_some {g g' : Gw} {id : UInt16} (h : g.newTopicId = (some id, g')) :
    g.exhausted = false ∧ g.idseq.overflow = false ∧ ∃ s',
      g.newTopicIdLoop (g.idseq.max.toNat - g.idseq.min.toNat + 2) g.idseq.next g.idseq.step.2 = (some id, s') ∧
      g' = { g with idseq := s' } := by
  rcases newTopicId_cases g with ⟨_, e⟩ | ⟨he, ho, _, s', hl, e⟩ <;> rw [h] at e <;> cases e
  exact ⟨he, ho, s', hl, rfl⟩

theorem newTopicId_none {g g' : Gw} (h : g.newTopicId = (none, g')) :
    ∃ s', g' = { g with idseq := s', exhausted := true } := by
  rcases newTopicId_cases g with ⟨s', e⟩ | ⟨_, _, _, _, _, e⟩ <;> rw [h] at e <;> cases e
  exact ⟨s', rfl⟩

/-- **C04.** After the sequence has wrapped the request is refused and the allocator is
    exhausted from then on. -/
theorem c04_after_wrap (g : Gw) (h : g.idseq.overflow = true) :
    g.newTopicId.1 = none ∧ (g.exhausted = false → g.newTopicId.2.exhausted = true) := by
  rcases newTopicId_cases g with ⟨_, e⟩ | ⟨_, ho, _⟩
  · rw [e]; exact ⟨rfl, fun _ => rfl⟩
  · rw [h] at ho; cases ho

/-- the sequence position lies inside its range -/
def SeqOk (s : IdSeq) : Prop := s.min.toNat ≤ s.next.toNat ∧ s.next.toNat ≤ s.max.toNat

theorem seqOk_step (s : IdSeq) (h : SeqOk s) :
    SeqOk s.step.2 ∧ s.step.2.min = s.min ∧ s.step.2.max = s.max ∧
    (s.step.2.overflow = false → s.next.toNat < s.step.2.next.toNat) := by
  unfold IdSeq.step
  split
  · exact ⟨⟨Nat.le_refl _, Nat.le_trans h.1 h.2⟩, rfl, rfl, nofun⟩
  · rename_i hne
    have hlt : s.next.toNat < s.max.toNat := Nat.lt_of_le_of_ne h.2 fun e => hne (UInt16.toNat_inj.mp e)
    refine ⟨?_, rfl, rfl, fun _ => ?_⟩ <;> simp only [SeqOk, toNat_succ_of_lt hlt]
    · exact ⟨Nat.le_succ_of_le h.1, hlt⟩
    · exact Nat.lt_succ_self _

/-- what the loop finds is not predefined; and the loop only moves forward and stays inside the range: the result
    is at or beyond its starting ID, and unless the sequence wrapped the position afterwards is beyond the result -/
theorem loop_some (g : Gw) : ∀ (fuel : Nat) (id : UInt16) (s s' : IdSeq) (r : UInt16),
    g.newTopicIdLoop fuel id s = (some r, s') → g.predefName r = none ∧ (SeqOk s →
    (s.overflow = false → id.toNat < s.next.toNat) → id.toNat ≤ s.max.toNat →
    id.toNat ≤ r.toNat ∧ r.toNat ≤ s.max.toNat ∧ SeqOk s' ∧ (s'.overflow = false → r.toNat < s'.next.toNat) ∧
      s'.min = s.min ∧ s'.max = s.max) := by
  intro fuel
  induction fuel with
  | zero => intro id s s' r h; cases h
  | succ n ih =>
    intro id s s' r h
    unfold newTopicIdLoop at h
    rw [IdSeq.step_eq] at h
    split at h
    · rename_i hp
      cases h
      exact ⟨Option.isNone_iff_eq_none.mp hp, fun hok hs hmax => ⟨Nat.le_refl _, hmax, hok, hs, rfl, rfl⟩⟩
    · dsimp only at h
      split at h
      · cases h
      · rename_i hov
        obtain ⟨hp, hi⟩ := ih _ _ _ _ h
        refine ⟨hp, fun hok hs hmax => ?_⟩
        obtain ⟨h3, h4, h5, h6⟩ := seqOk_step s hok
        have := hi h3 h6 (h5 ▸ hok.2)
        rw [h4, h5] at this
        exact ⟨Nat.le_trans (Nat.le_of_lt (hs (Bool.not_eq_true _ ▸ hov))) this.1, this.2⟩

/-- **C04.** An ID handed out is not a predefined topic ID of this client. -/
theorem c04_not_predefined (g g' : Gw) (id : UInt16) (h : g.newTopicId = (some id, g')) : g.predefName id = none :=
  let ⟨_, _, _, hl, _⟩ := newTopicId_some h
  (loop_some g _ _ _ _ _ hl).1

/-- **C04.** IDs are handed out in strictly increasing order inside the sequence's range: the
    ID is at or beyond the position before the call, and afterwards the position is beyond the
    ID — or the sequence has wrapped, after which nothing is handed out (`c04_after_wrap`). -/
theorem c04_increasing (g g' : Gw) (id : UInt16) (h : g.newTopicId = (some id, g')) (hok : SeqOk g.idseq) :
    g.idseq.min.toNat ≤ id.toNat ∧ g.idseq.next.toNat ≤ id.toNat ∧ id.toNat ≤ g.idseq.max.toNat ∧
    SeqOk g'.idseq ∧ g'.idseq.min = g.idseq.min ∧ g'.idseq.max = g.idseq.max ∧
    (g'.idseq.overflow = false → id.toNat < g'.idseq.next.toNat) := by
  obtain ⟨_, _, s', hl, rfl⟩ := newTopicId_some h
  obtain ⟨h3, h4, h5, h6⟩ := seqOk_step g.idseq hok
  have hl' := (loop_some g _ _ _ _ _ hl).2 h3 h6 (h5 ▸ hok.2)
  rw [h4, h5] at hl'
  exact ⟨Nat.le_trans hok.1 hl'.1, hl'.1, hl'.2.1, hl'.2.2.1, hl'.2.2.2.2.1, hl'.2.2.2.2.2, hl'.2.2.2.1⟩

theorem seqOk_new (mn mx : UInt16) (h : mn.toNat ≤ mx.toNat) : SeqOk (IdSeq.new mn mx) := ⟨Nat.le_refl _, h⟩

/-- **C04.** Refusals carry a non-accepted return code. -/
theorem c04_refusal_codes : Gen.RC_INVALID_TOPIC_ID ≠ Gen.RC_ACCEPTED ∧ Gen.RC_NOT_SUPPORTED ≠ Gen.RC_ACCEPTED := by
  decide

/-- `k` successive allocations: the IDs handed out (oldest first) -/
def allocs : Nat → Gw → List UInt16
  | 0, _ => []
  | k + 1, g => match g.newTopicId with
    | (some id, g') => id :: allocs k g'
    | (none, g') => allocs k g'

theorem allocs_exhausted (k : Nat) : ∀ (g : Gw), g.exhausted = true → allocs k g = [] := by
  induction k with
  | zero => intro g _; rfl
  | succ n ih =>
    intro g h
    unfold allocs
    rw [c04_exhausted_sticky g h]
    exact ih g h

/-- **C04.** However many allocations are requested, the IDs handed out are strictly increasing
    (so pairwise distinct), inside the range and not predefined. -/
theorem c04_allocs (k : Nat) : ∀ (g : Gw), SeqOk g.idseq →
    ∀ (lo : Nat), (g.idseq.overflow = false → lo ≤ g.idseq.next.toNat) →
    (allocs k g).Pairwise (fun a b => a.toNat < b.toNat) ∧
    ∀ id ∈ allocs k g, lo ≤ id.toNat ∧ g.idseq.min.toNat ≤ id.toNat ∧ id.toNat ≤ g.idseq.max.toNat := by
  induction k with
  | zero => intro g _ lo _; simp [allocs]
  | succ n ih =>
    intro g hok lo hlo
    unfold allocs
    split
    · rename_i id g' h
      obtain ⟨h1, h2, h3, h4, h5, h6, h7⟩ := c04_increasing g g' id h hok
      have hl := Nat.le_trans (hlo (newTopicId_some h).2.1) h2
      -- the rest is handed out by `g'`, beyond `id`
      obtain ⟨hp, hi⟩ := ih g' h4 (id.toNat + 1) h7
      rw [h5, h6] at hi
      exact ⟨List.pairwise_cons.mpr ⟨fun b hb => (hi b hb).1, hp⟩, List.forall_mem_cons.mpr
        ⟨⟨hl, h1, h3⟩, fun x hx => ⟨Nat.le_trans hl (Nat.le_of_succ_le (hi x hx).1), (hi x hx).2⟩⟩⟩
    · rename_i g' h
      -- a refusal leaves the allocator exhausted: nothing is handed out afterwards
      obtain ⟨s', rfl⟩ := newTopicId_none h
      rw [allocs_exhausted n _ rfl]
      simp

/-- non-vacuity: the range 1..3 with ID 2 predefined for every client: five requests hand out
    1 and 3 and then nothing -/
example : allocs 5 (Gw.init ⟨false, none, none, 10, 2, [([0x2A], [(2, [0x78])])]⟩ 1 3) = [1, 3] := by decide

/-! ## the registry over whole runs

  Invariant `K`: every bound or reserved ID lies behind the allocation position (unless the allocator
  is exhausted), a reserved ID (`regIds`: the gateway's own registrations) is unbound or bound to its
  own name, reservations are injective, the ID sequence is inside its range unless the allocator is exhausted, and
  every REGISTER exchange waiting for its REGACK is for a reserved (name, ID).  `F4 g g'`: a model function keeps `K` and never rebinds (`Stable`). -/

/-- the ID lies behind the allocation position, or nothing is allocated any more -/
def Behind (g : Gw) (i : UInt16) : Prop :=
  g.exhausted = true ∨ g.idseq.overflow = true ∨ i.toNat < g.idseq.next.toNat

/-- a REGISTER exchange waiting for its REGACK is for a reserved (name, ID) -/
def txOk4 (R : List (Bytes × UInt16)) (k : TxKind) : Prop :=
  ∀ q id m name snp n, k = .brokerPub q .awaitingRegack (.sn (.register id m name)) snp n → R.lookup name = some id

structure K (g : Gw) : Prop where
  gb : ∀ i n, g.registered.lookup i = some n → Behind g i
  rb : ∀ n i, g.regIds.lookup n = some i → Behind g i
  rc : ∀ n i, g.regIds.lookup n = some i → g.registered.lookup i = none ∨ g.registered.lookup i = some n
  ri : ∀ n n' i, g.regIds.lookup n = some i → g.regIds.lookup n' = some i → n = n'
  sq : g.exhausted = true ∨ SeqOk g.idseq
  tx : ∀ t ∈ g.txs, txOk4 g.regIds t.kind

/-- no binding of the registry is lost or changed -/
def Stable (g g' : Gw) : Prop := ∀ i n, g.registered.lookup i = some n → g'.registered.lookup i = some n

def F4 (g g' : Gw) : Prop := K g → K g' ∧ Stable g g'

/-- `K` reads the topic tables and the stored exchanges only -/
theorem K.of_topicTables {g g' : Gw} (hv : g'.topicTables = g.topicTables) (ht : ∀ t ∈ g'.txs, txOk4 g'.regIds t.kind)
    (h : K g) : K g' := by
  obtain ⟨hr, hi, hs, he⟩ := TopicTables.mk.inj hv
  have hb : Behind g' = Behind g := by unfold Behind; rw [hs, he]
  -- each field of `K g`, along the equations of the four tables
  exact ⟨hr ▸ hb ▸ h.gb, hi ▸ hb ▸ h.rb, hi ▸ hr ▸ h.rc, hi ▸ h.ri, he ▸ hs ▸ h.sq, ht⟩

/-! ### the allocator and the three sites that bind or reserve an ID

  `K` in terms of what the gateway means by its TopicIDs (`Lemmas/Tables.lean`): an ID means one name, and every
  ID that means something is `Behind`, that is below `bound` — `Tables` with no client.  So the sites are the steps
  of C26's histories: `Tables.bind`, `Tables.choose`, `Means.bind_chosen`. -/

/-- the bound behind which everything in use lies: the allocation position, or beyond every ID once nothing is allocated
    any more -/
def bound (g : Gw) : Nat := if g.exhausted = true ∨ g.idseq.overflow = true then 2 ^ 16 else g.idseq.next.toNat

theorem behind_iff {g : Gw} {i : UInt16} : Behind g i ↔ i.toNat < bound g := by
  unfold Behind bound
  split
  · rename_i h; exact ⟨fun _ => i.toNat_lt, fun _ => h.elim .inl fun e => .inr (.inl e)⟩
  · rename_i h; exact ⟨fun hb => hb.elim (fun e => absurd (.inl e) h) fun hb => hb.elim (fun e => absurd (.inr e) h) id,
      fun hb => .inr (.inr hb)⟩

theorem K.one {g : Gw} (h : K g) : One (Means g.registered g.regIds) := one_means_iff.mpr ⟨h.rc, h.ri⟩

theorem K.tables {g : Gw} (h : K g) : Tables [] (Means g.registered g.regIds) (bound g) :=
  ⟨nofun, h.one, fun i n m => behind_iff.mp (m.elim (h.gb i n) (h.rb n i))⟩

theorem K.of_bound {g : Gw} (T : Tables [] (Means g.registered g.regIds) (bound g)) (sq : g.exhausted = true ∨ SeqOk g.idseq)
    (tx : ∀ t ∈ g.txs, txOk4 g.regIds t.kind) : K g :=
  ⟨fun i n h => behind_iff.mpr (T.below i n (.inl h)), fun n i h => behind_iff.mpr (T.below i n (.inr h)),
    (one_means_iff.mp T.one).1, (one_means_iff.mp T.one).2, sq, tx⟩

theorem alloc_ok (g g1 : Gw) (id : UInt16) (h : g.newTopicId = (some id, g1)) (sq : g.exhausted = true ∨ SeqOk g.idseq) :
    ∃ s', g1 = { g with idseq := s' } ∧ bound g ≤ id.toNat ∧ id.toNat < bound g1 ∧ SeqOk s' := by
  obtain ⟨he, ho, s', -, e⟩ := newTopicId_some h
  have inc := c04_increasing g g1 id h (sq.resolve_left fun hx => nomatch he ▸ hx)
  subst e
  refine ⟨s', rfl, ?_, ?_, inc.2.2.2.1⟩ <;> unfold bound
  · -- the allocator was live and had not wrapped
    rw [if_neg (by rw [he, ho]; exact fun e => e.elim nofun nofun)]
    exact inc.2.1
  · split
    · exact id.toNat_lt
    · rename_i hn
      exact inc.2.2.2.2.2.2 (Bool.eq_false_iff.mpr fun e => hn (.inr e))

theorem alloc_fail (g g' : Gw) (h : g.newTopicId = (none, g')) : F4 g g' := by
  intro hK
  obtain ⟨s', rfl⟩ := newTopicId_none h
  exact ⟨.of_bound ⟨nofun, hK.one, fun i _ _ => i.toNat_lt⟩ (.inl rfl) hK.tx, fun _ _ hl => hl⟩

/-- binding a fresh ID (REGISTER / SUBSCRIBE of a new name) -/
theorem F4.alloc_store (g g1 : Gw) (id : UInt16) (name : Bytes) (h : g.newTopicId = (some id, g1)) :
    F4 g (g1.storeRegistered id name) := by
  intro hK
  obtain ⟨s', rfl, hle, hlt, hok⟩ := alloc_ok g g1 id h hK.sq
  exact ⟨.of_bound (hK.tables.bind hle hlt) (.inr hok) hK.tx,
    fun i n hl => (lookup_cons_fresh name (hK.tables.unbound hle) i n).mpr (.inl hl)⟩

/-- binding a reserved ID (the REGACK of the gateway's own REGISTER) -/
theorem F4.store_reserved (g : Gw) (id : UInt16) (name : Bytes) (hR : g.regIds.lookup name = some id) :
    F4 g (g.storeRegistered id name) := by
  intro hK
  have e : Means (g.storeRegistered id name).registered (g.storeRegistered id name).regIds = Means g.registered g.regIds :=
    Means.bind_chosen hK.one hR
  refine ⟨.of_bound (e ▸ hK.tables) hK.sq hK.tx, fun i n hl => ?_⟩
  -- what `id` was bound to, if anything, was `name`
  refine lookup_cons_some.mpr ?_
  by_cases h : i = id
  · exact .inl ⟨h, hK.one i n name (.inl hl) (.inr (h ▸ hR))⟩
  · exact .inr ⟨h, hl⟩

theorem registrationTopicId_ok (g g' : Gw) (topic : Bytes) (r : Option UInt16) (h : g.registrationTopicId topic = (r, g')) :
    F4 g g' := by
  rcases registrationTopicId_cases h with ⟨_, _, _, rfl⟩ | ⟨hnone, ⟨id, g1, hn, _, rfl⟩ | ⟨hn, _⟩⟩
  · exact fun hK => ⟨hK, fun _ _ hl => hl⟩
  · intro hK
    obtain ⟨s', rfl, hle, hlt, hok⟩ := alloc_ok g g1 id hn hK.sq
    exact ⟨.of_bound (hK.tables.choose hnone hle hlt) (.inr hok) fun t ht q id' m name snp k hk =>
        (lookup_cons_fresh id hnone name id').mpr (.inl (hK.tx t ht q id' m name snp k hk)),
      fun _ _ hl => hl⟩
  · exact alloc_fail g _ hn

/-! ### `F4` is a frame (`Lemmas/GwFrame.lean`)

  whose invariant of the stored exchanges is `txOk4` and whose invariant of the topic tables is the rest of `K`,
  together with the bindings `R0` the registry had where the function started (so that the frame yields `Stable`). -/

/-- `K` but for its last field, of every state with these tables (`Frame.Tb` is given the tables alone, `K` speaks of a
    state: so of every state with these tables whose exchanges are `txOk4`); and the bindings `R0` are all still there -/
def TablesOk (R0 : List (UInt16 × Bytes)) (v : TopicTables) : Prop :=
  ∀ g : Gw, g.topicTables = v → (∀ t ∈ g.txs, txOk4 g.regIds t.kind) →
    K g ∧ ∀ i n, R0.lookup i = some n → g.registered.lookup i = some n

def f4Frame (c : Cfg) (R0 : List (UInt16 × Bytes)) : Frame := { cfg := c, K := txOk4, Tb := TablesOk R0 }

theorem K.of_inv {c : Cfg} {R0 : List (UInt16 × Bytes)} {g : Gw} (h : (f4Frame c R0).Inv g) : K g := (h.tb g rfl h.txs).1

theorem F4.tb {c : Cfg} {R0 : List (UInt16 × Bytes)} {g g' : Gw} (h : F4 g g') (hI : (f4Frame c R0).Inv g) :
    (f4Frame c R0).Tb g'.topicTables := fun g2 e htx =>
  let ⟨hK', hst⟩ := h (K.of_inv hI)
  ⟨hK'.of_topicTables e htx, fun i n hl =>
    (show g2.registered = g'.registered from congrArg TopicTables.registered e) ▸ hst i n ((hI.tb g rfl hI.txs).2 i n hl)⟩

theorem F4.of_fr {n : Nat} {g g' : Gw} (h : Fr (f4Frame g.cfg g.registered) n g g') : F4 g g' := fun hK =>
  let ⟨hI, _⟩ := h ⟨rfl, trivial, fun g2 e htx => ⟨hK.of_topicTables e htx, fun _ _ hl =>
    (show g2.registered = g.registered from congrArg TopicTables.registered e) ▸ hl⟩, fun _ _ => trivial, hK.tx⟩
  ⟨K.of_inv hI, (hI.tb g' rfl hI.txs).2⟩

theorem ok4_of_ne {R : List (Bytes × UInt16)} {k : TxKind}
    (h : ∀ q id m name snp n, k ≠ .brokerPub q .awaitingRegack (.sn (.register id m name)) snp n) : txOk4 R k :=
  fun q id m name snp n e => absurd e (h q id m name snp n)

theorem ok4_connect {R : List (Bytes × UInt16)} (st : ConnSt) (f : ConnFields) : txOk4 R (.connect st f) :=
  ok4_of_ne fun _ _ _ _ _ _ => nofun

theorem f4Sites (c : Cfg) (R0 : List (UInt16 × Bytes)) : (f4Frame c R0).Sites :=
  { SnSites.top with
    alloc := fun g id g' name hI h => (F4.alloc_store g g' id name h).tb hI
    allocFail := fun g g' hI h => (alloc_fail g g' h).tb hI
    -- the exchange is one of the session's, so its (name, ID) is reserved
    regAck := fun g q tid m name snp n hI hK => (F4.store_reserved g tid name (hK q tid m name snp n rfl)).tb hI
    reserve := fun g topic r g' hI h => ⟨(registrationTopicId_ok g g' topic r h).tb hI,
      fun _ hk q id m name snp n e => registrationTopicId_keeps h (hk q id m name snp n e)⟩
    kClientPub1 := fun _ => ok4_of_ne fun _ _ _ _ _ _ => nofun
    kSubscribe := fun _ => ok4_of_ne fun _ _ _ _ _ _ => nofun
    bpNew := fun _ _ _ _ => ok4_of_ne fun _ _ _ _ _ _ => nofun
    bpSn := fun _ _ _ _ hr _ _ _ _ _ _ e => by
      cases e
      obtain ⟨_, _, _, e', hl⟩ := hr rfl
      cases e'
      exact hl
    bpAck := fun _ _ _ _ => ok4_of_ne fun _ _ _ _ _ _ => nofun
    bpSnp := fun _ => trivial
    retrySn := fun {_ _ _ _ _ n} hK _ => ⟨trivial, fun q id m name snp _ e => by
      injection e with e1 e2 e3 e4 _
      injection e3 with e3
      exact hK q id m name snp n (by rw [e1, e2, setDup_register e3, e4])⟩
    retryMq := fun _ _ => ⟨.free trivial, ok4_of_ne fun _ _ _ _ _ _ => nofun⟩
    mqAck := fun _ _ => .free trivial
    mqPingreq := .free trivial
    mqSubscribe := fun _ _ _ _ _ _ => .free trivial
    mqUnsubscribe := fun _ _ _ => .free trivial
    mqPubrel := fun _ => .free trivial
    willTopic := fun _ _ _ _ _ _ => ok4_connect _ _
    willMsg := fun _ _ _ => ⟨ok4_connect _ _, trivial, nofun⟩ }

theorem f4Authd (c : Cfg) (R0 : List (UInt16 × Bytes)) (R : List (Bytes × UInt16)) (f : ConnFields) :
    (f4Frame c R0).Authd R f :=
  ⟨fun _ => ok4_connect _ _, fun _ => ⟨ok4_connect _ _, trivial, nofun⟩⟩

theorem f4Conn (c : Cfg) (R0 : List (UInt16 × Bytes)) : (f4Frame c R0).ConnSites :=
  .of_authd (fun _ _ => ok4_connect _ _) (f4Authd c R0)

theorem f4Admits (c : Cfg) (R0 : List (UInt16 × Bytes)) (p : Pkt) : (f4Frame c R0).Admits p :=
  ⟨.of_authd (f4Authd c R0) (fun _ _ _ _ _ _ => .free trivial) (.free trivial), .of_true (fun _ => trivial) fun _ => trivial⟩

theorem F4.snSend (g : Gw) (p : Pkt) (tx : Option Nat) : F4 g (g.snSend p tx) := .of_fr (Fr.snSend g p tx trivial)
theorem F4.snSendNow (g : Gw) (p : Pkt) : F4 g (g.snSendNow p) := .of_fr (Fr.snSendNow g p trivial trivial)
theorem F4.mqttSend (g : Gw) (p : MqPkt) : F4 g (g.mqttSend p) := .of_fr (Fr.mqttSend (n := 0) g p (.free trivial))
theorem F4.cancelSleepPinger (g : Gw) : F4 g g.cancelSleepPinger := .of_fr (Fr.of_eq rfl rfl rfl rfl rfl rfl)
theorem F4.startSleepPinger (g : Gw) (d : UInt16) : F4 g (g.startSleepPinger d) := .of_fr (Fr.of_eq rfl rfl rfl rfl rfl rfl)
theorem F4.armSleepPinger (g : Gw) (d : UInt16) : F4 g (g.armSleepPinger d) := .of_fr (Fr.armSleepPinger g d)
theorem F4.pingBroker (g : Gw) : F4 g g.pingBroker := .of_fr (Fr.pingBroker (f4Sites _ _) g)
theorem F4.keepBrokerAlive (g : Gw) : F4 g g.keepBrokerAlive := .of_fr (Fr.keepBrokerAlive (f4Sites _ _) g)
theorem F4.handleClientPublish (g : Gw) (dup : Bool) (q : UInt8) (r : Bool) (tit : UInt8) (tid mid : UInt16) (d : Bytes) :
    F4 g (g.handleClientPublish dup q r tit tid mid d) :=
  .of_fr (Fr.handleClientPublish (f4Sites _ _) g dup q r tit tid mid d fun _ _ _ => .free trivial)
theorem F4.handleSubscribe (g : Gw) (dup : Bool) (q tit : UInt8) (mid tid : UInt16) (n : Bytes) :
    F4 g (g.handleSubscribe dup q tit mid tid n) := .of_fr (Fr.handleSubscribe (f4Sites _ _) g dup q tit mid tid n)
theorem F4.handleUnsubscribe (g : Gw) (tit : UInt8) (mid tid : UInt16) (n : Bytes) : F4 g (g.handleUnsubscribe tit mid tid n) :=
  .of_fr (Fr.handleUnsubscribe (f4Sites _ _) g tit mid tid n)
theorem F4.handleBrokerPublish (g : Gw) (dup : Bool) (q : UInt8) (r : Bool) (mid : UInt16) (tp pl : Bytes) :
    F4 g (g.handleBrokerPublish dup q r mid tp pl) := .of_fr (Fr.handleBrokerPublish (f4Sites _ _) g dup q r mid tp pl)
theorem F4.handleConnect (g : Gw) (will clean : Bool) (dur : UInt16) (cid : Bytes) : F4 g (g.handleConnect will clean dur cid) :=
  .of_fr (Fr.handleConnect SnSites.top (f4Conn _ _) g will clean dur cid fun _ => trivial)
theorem F4.retryExpire (g : Gw) (t : Tx) (ht : t ∈ g.txs) : F4 g (g.retryExpire t) :=
  .of_fr (Fr.retryExpire (f4Sites _ _) g t ht)
theorem F4.advance : ∀ (fuel : Nat) (g : Gw) (t : Nat), F4 g (advance fuel g t) :=
  fun fuel g t => .of_fr (Fr.advance (f4Sites _ _) t fuel g)
theorem F4.sample (g : Gw) : F4 g g.sample := .of_fr (Fr.sample g)

theorem F4.run (g : Gw) (evs : List (Nat × Event)) : F4 g (g.run evs) :=
  .of_fr (Fr.run (f4Sites _ _) (f4Conn _ _) evs (fun e _ => Frame.admitsEv_all (f4Admits _ _) trivial e.2) g)

theorem K_init (cfg : Cfg) (a b : UInt16) (h : a.toNat ≤ b.toNat) : K (Gw.init cfg a b) :=
  .of_bound (Tables.nil _) (.inr (seqOk_new a b h)) fun _ ht => (List.not_mem_nil ht).elim

/-- **C04 (ALL runs).** Within one session — whatever the client and the broker send, in any order and
    with any timing: REGISTERs, SUBSCRIBEs, REGACKs for the gateway's own registrations (also stray or
    repeated ones), broker messages on new topics, exhaustion of the ID range, everything else — a
    TopicID that denotes a name in the gateway's registry at some point denotes the same name at every
    later point. -/
theorem c04_never_reassigned (cfg : Cfg) (a b : UInt16) (hab : a.toNat ≤ b.toNat) (evs1 evs2 : List (Nat × Event))
    (i : UInt16) (n : Bytes) (h : ((Gw.init cfg a b).run evs1).registered.lookup i = some n) :
    ((Gw.init cfg a b).run (evs1 ++ evs2)).registered.lookup i = some n := by
  have hK1 := (F4.run (Gw.init cfg a b) evs1 (K_init cfg a b hab)).1
  have e : (Gw.init cfg a b).run (evs1 ++ evs2) = ((Gw.init cfg a b).run evs1).run evs2 := by
    unfold Gw.run; rw [List.foldl_append]
  rw [e]
  exact (F4.run _ evs2 hK1).2 i n h

end Bisquitt.Gw
