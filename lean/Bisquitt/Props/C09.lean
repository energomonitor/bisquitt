/-
  C09 — Connect exchange follows the will protocol and sends one CONNECT.

  Theorems about the model's connect exchange, for ALL states and inputs:
  * `c09_will_topicreq`: with the Will flag the authenticated exchange sends WILLTOPICREQ and
    nothing to the broker; `c09_nowill`: without it, no WILL* request, the CONNECT at once;
  * `c09_willtopic`: WILLMSGREQ is sent only as the answer to a WILLTOPIC received in
    `awaitingWillTopic`, anything else leaves the exchange alone (`c09_willtopic_ignored`);
  * `c09_willmsg`: the CONNECT goes out only on WILLMSG in `awaitingWillMsg`, carrying the will
    topic, QoS and retain flag of the WILLTOPIC and the message (`c09_will_fields`);
  * `c09_one_connect`: from `awaitingConnack` no client packet of the exchange sends anything —
    at most one CONNECT per exchange;
  * `c09_connack`: the client's CONNACK is "accepted" exactly when the broker's code is 0,
    otherwise "congestion"; `c09_zero_keepalive`: "not supported" for a zero keep-alive, with
    nothing sent to the broker.
  * **all runs** — `c09_connects_bounded`: after ANY sequence of timed events (datagrams of every kind,
    malformed ones, broker packets, every timer on the way, EOF, shutdown) the number of MQTT CONNECT
    packets written to the broker is at most the number of CONNECT datagrams the client has sent: every
    connect exchange writes at most one, and nothing else ever writes one.  Potential argument
    (`Lemmas/GwConnCount.lean`): MQTT CONNECTs written + connect exchanges that have not written theirs
    yet grows only by the handler of a CONNECT datagram, by one (`F9` carried through every model
    function, under the bookkeeping invariant `I9`: transaction ids unique and below `nextTx`).
-/
import Bisquitt.Props.C08
import Bisquitt.Lemmas.GwConnCount

namespace Bisquitt.Gw
open Bisquitt Gw

theorem c09_will_topicreq (g : Gw) (t : Tx) (f : ConnFields) (hw : f.will = true) (hs : g.st ≠ .asleep) :
    (g.connAuthenticated t f).outs = (g.now, Out.sn (encode .willtopicreq)) :: g.outs := by
  unfold connAuthenticated; simp [hw, snSend, hs, emit, setTx]

theorem c09_nowill (g : Gw) (t : Tx) (f : ConnFields) (hw : f.will = false) :
    (g.connAuthenticated t f).outs = (g.now, Out.mq f.toPkt) :: g.outs :=
  c07_connect_sent_nowill g t f hw

/-- **C09.** WILLTOPIC in `awaitingWillTopic` (will QoS ≤ 2): WILLMSGREQ, nothing to the broker. -/
theorem c09_willtopic (g : Gw) (t : Tx) (f : ConnFields) (q : UInt8) (r : Bool) (topic : Bytes) (hq : ¬ q > 2)
    (hs : g.st ≠ .asleep) :
    (g.connWillTopic t .awaitingWillTopic f q r topic).outs = (g.now, Out.sn (encode .willmsgreq)) :: g.outs := by
  unfold connWillTopic; simp [hq, snSend, hs, emit, setTx]

theorem c09_willtopic_ignored (g : Gw) (t : Tx) (st : ConnSt) (f : ConnFields) (q : UInt8) (r : Bool) (topic : Bytes)
    (h : st ≠ .awaitingWillTopic) : g.connWillTopic t st f q r topic = g := by
  unfold connWillTopic; simp [h]

/-- the fields remembered from the WILLTOPIC -/
theorem c09_will_fields (g : Gw) (t : Tx) (f : ConnFields) (q : UInt8) (r : Bool) (topic : Bytes) (hq : ¬ q > 2)
    (hne : topic ≠ []) :
    (g.connWillTopic t .awaitingWillTopic f q r topic).txs =
      (g.setTx { t with kind := .connect .awaitingWillMsg { f with wq := q, wr := r, wt := topic } }).txs := by
  unfold connWillTopic
  have : topic.isEmpty = false := List.isEmpty_eq_false_iff.mpr hne
  simp only [ne_eq, not_true_eq_false, if_false, hq, this, Bool.false_eq_true]
  exact snSend_txs _ _ _

/-- **C09.** WILLMSG in `awaitingWillMsg`: the one CONNECT, with the will of the exchange. -/
theorem c09_willmsg (g : Gw) (t : Tx) (f : ConnFields) (m : Bytes) (hw : f.will = true) :
    (g.connWillMsg t .awaitingWillMsg f m).outs =
      (g.now, Out.mq (.connect f.cid f.clean f.ka f.uflag f.user f.pflag f.pass true f.wq f.wr f.wt m)) :: g.outs := by
  rw [c07_connect_sent_will]; simp [hw, ConnFields.toPkt]

theorem c09_willmsg_ignored (g : Gw) (t : Tx) (st : ConnSt) (f : ConnFields) (m : Bytes)
    (h : st ≠ .awaitingWillMsg) : g.connWillMsg t st f m = g := by
  unfold connWillMsg; simp [h]

/-- **C09.** At most one CONNECT per exchange: once it awaits the broker's CONNACK, AUTH,
    WILLTOPIC and WILLMSG do nothing. -/
theorem c09_one_connect (g : Gw) (t : Tx) (f : ConnFields) (a b : Bytes) (q : UInt8) (r : Bool) :
    g.connAuth t .awaitingConnack f a b = g ∧ g.connWillTopic t .awaitingConnack f q r a = g ∧
    g.connWillMsg t .awaitingConnack f a = g := by
  refine ⟨?_, ?_, ?_⟩
  · unfold connAuth; simp
  · unfold connWillTopic; simp
  · unfold connWillMsg; simp

/-- **C09.** The CONNACK the client gets. -/
theorem c09_connack (g : Gw) (t : Tx) (rc : UInt8) (hs : g.st ≠ .asleep) :
    (g.connConnack t .awaitingConnack rc).outs =
      (g.now, Out.sn (encode (.connack (if rc = 0 then Gen.RC_ACCEPTED else Gen.RC_CONGESTION)))) :: g.outs := by
  unfold connConnack
  by_cases h : rc = 0
  · simp [h, sendConnack, snSend, emit]
  · simp [h, sendConnack, snSend, emit, hs]

theorem c09_connack_ignored (g : Gw) (t : Tx) (st : ConnSt) (rc : UInt8) (h : st ≠ .awaitingConnack) :
    g.connConnack t st rc = g := by
  unfold connConnack; simp [h]

/-- **C09.** Zero keep-alive: "not supported", nothing to the broker, no exchange. -/
theorem c09_zero_keepalive (g : Gw) (w c : Bool) (cid : Bytes) (h : g.st = .disconnected ∨ g.st = .active) :
    (g.handleConnect w c 0 cid).outs = (g.now, Out.sn (encode (.connack Gen.RC_NOT_SUPPORTED))) :: g.outs ∧
    (g.handleConnect w c 0 cid).txs = g.txs := by
  unfold handleConnect
  rcases h with h | h <;> simp [h, snSend, emit]

/-- **C09 (ALL runs).** Whatever the client, the broker and the clock do, the gateway writes at most as
    many MQTT CONNECT packets as the client has sent CONNECT datagrams: each connect exchange produces
    at most one, and no other packet, timer or retransmission ever produces one. -/
theorem c09_connects_bounded (cfg : Cfg) (a b : UInt16) (evs : List (Nat × Event)) :
    (mqConnects ((Gw.init cfg a b).run evs)).length ≤ (evs.map fun e => connectDatagram e.2).sum := by
  have h := (F9.run evs _).le (i9_init cfg a b)
  have h0 : pot (Gw.init cfg a b) = 0 := rfl
  have hle : (mqConnects ((Gw.init cfg a b).run evs)).length ≤ pot ((Gw.init cfg a b).run evs) := Nat.le_add_right _ _
  omega

/-- non-vacuity: a CONNECT datagram counts, another datagram does not -/
example : connectDatagram (.sn (encode (.connect false true 1 60 [0x63]))) = 1 ∧
    connectDatagram (.sn (encode (.pingreq []))) = 0 := by decide

end Bisquitt.Gw
