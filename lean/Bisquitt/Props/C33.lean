/-
  C33 — Client keep-alive pings only while active.

  Theorems about the keep-alive part of the client model, for ALL states (KeepAlive > 0, the
  keep-alive goroutine and the group running):
  * `c33_ticker_follows_state`: the ticker runs exactly while the client is active — entering
    `active` arms it one period ahead, any other state stops it;
  * `c33_tick`: a tick re-arms the ticker one period ahead and, unless a keep-alive ping is still
    waiting for its PINGRESP, sends one PINGREQ (so while active a PINGREQ goes out, or one is
    outstanding, every period);
  * `c33_stop_on_leaving_active`: when the client leaves `active` (falls asleep, disconnects) the
    keep-alive ping in progress is ended at once — its retry timer is gone, so nothing is
    retransmitted while asleep or disconnected (`c33_no_timer_after_stop`);
  * `c33_state_change_never_blocks`: a state change is one total step of the model (the code's
    `notifyStateChange` never blocks its caller since the repair);
  * `c33_keepalive_result_private`: the end of a keep-alive exchange — success, or stopped because
    the client left `active` — produces no API return and does not cancel the group; only a
    keep-alive exchange that ran out of retries (the gateway is gone) ends the client.
  * `c33_ping_joins` (repaired defect, fix ccdec80): there is one PINGREQ exchange at a time — a ping
    requested while one is in progress (the keep-alive's and the application's can meet) sends its
    PINGREQ (`apiPing_open`: every ping puts exactly one PINGREQ on the wire) and waits for the
    transaction in progress instead of replacing it in the slot.
-/
import Bisquitt.Lemmas.Client

namespace Bisquitt.Cl
open Bisquitt Cl

/-- **C33.** The ticker runs exactly while the client is active. -/
theorem c33_ticker_follows_state (c : Cl) (s : CState) (hk : c.cfg.ka ≠ 0) (ha : c.kaAlive = true) (hl : c.alive = true) :
    (c.notifyState s).kaTick = if s = .active then some (c.now + c.cfg.ka * 1000) else none := by
  unfold notifyState
  simp [hk, ha, hl]
  split <;> rfl

theorem startPing_open (c : Cl) (call : String) (ka : Bool) (ho : c.connClosed = false) :
    (c.startPing call ka).outs = (c.now, Out.sn (encode (.pingreq []))) :: c.outs ∧ (c.startPing call ka).kaTick = c.kaTick := by
  unfold startPing
  simp only []   -- the destructuring `let`s away, so that `rw` sees what `proceed` is applied to
  rw [proceed_frame]
  simp [newTx, store, send, ho, emit]

/-- Joining the ping in progress on an open connection, as a whole: the PINGREQ goes out and the
    call waits for the transaction that is there. -/
theorem joinPing_open (c : Cl) (call : String) (ka : Bool) (t : Tx) (ho : c.connClosed = false) :
    c.joinPing call ka t =
      { (if ka then c else c.setTx { t with kind := .ping false }).emit (.sn (encode (.pingreq []))) with
        waits := c.waits ++ [{ call := call, tx := t.id, kind := .plain }] } := by
  unfold joinPing
  simp only []   -- the `let`s away, as in `startPing_open`
  rw [send_open _ _ (by cases ka <;> exact ho)]
  cases ka <;> rfl

/-- every ping — the application's or the keep-alive's, starting an exchange or joining the one in
    progress — puts exactly one PINGREQ on the wire -/
theorem apiPing_open (c : Cl) (call : String) (ka : Bool) (ho : c.connClosed = false) :
    (c.apiPing call ka).outs = (c.now, Out.sn (encode (.pingreq []))) :: c.outs ∧ (c.apiPing call ka).kaTick = c.kaTick := by
  unfold apiPing
  split
  · rw [joinPing_open c call ka _ ho]
    unfold emit   -- `rfl` is slow through folded setters
    cases ka <;> exact ⟨rfl, rfl⟩
  · exact startPing_open c call ka ho

/-- **C33.** A tick: next tick one period ahead; one PINGREQ unless the keep-alive's own PINGREQ is
    still outstanding. (A tick that finds an exchange of the application in progress sends its PINGREQ
    and joins that exchange: one PINGRESP answers both.) -/
theorem c33_tick (c : Cl) (t : Nat) (ho : c.connClosed = false) :
    (c.fireDue (.kaTick t)).kaTick = some (t + c.cfg.ka * 1000) ∧
    (c.kaPinging = true → (c.fireDue (.kaTick t)).outs = c.outs) ∧
    (c.kaPinging = false → (c.fireDue (.kaTick t)).outs = (t, Out.sn (encode (.pingreq []))) :: c.outs) := by
  -- the state the tick pings from
  have hp := apiPing_open { c with now := t, kaTick := some (t + c.cfg.ka * 1000), kaPinging := true }
    "#keepalive" true ho
  cases hk : c.kaPinging <;> simp [fireDue, Due.time, hk, hp]

/-- **C33.** One PINGREQ exchange at a time: a ping that finds one in progress does not replace it in
    the slot (no new transaction), it waits for the same transaction. -/
theorem c33_ping_joins (c : Cl) (call : String) (ka : Bool) (t : Tx) (h : c.pingInProgress = some t)
    (ho : c.connClosed = false) :
    (c.apiPing call ka).nextTx = c.nextTx ∧ (c.apiPing call ka).slotPing = c.slotPing ∧
    (c.apiPing call ka).waits = c.waits ++ [{ call := call, tx := t.id, kind := .plain }] := by
  unfold apiPing
  rw [h]
  simp only
  rw [joinPing_open c call ka t ho]
  unfold emit
  cases ka <;> exact ⟨rfl, rfl, rfl⟩

/-- the keep-alive exchange in progress, if any -/
def Cl.kaPingTx (c : Cl) : Option Tx :=
  match c.slotPing.bind c.getTx with
  | some t => (match t.kind with | .ping true => some t | _ => none)
  | none => none

theorem kaPingTx_eq_some {c : Cl} {t : Tx} (h : c.kaPingTx = some t) :
    c.slotPing.bind c.getTx = some t ∧ t.kind = .ping true := by
  unfold kaPingTx at h
  split at h
  · split at h
    · cases h; exact ⟨‹_›, ‹_›⟩
    · cases h
  · cases h

/-- **C33.** Leaving `active` ends the keep-alive ping in progress at once. -/
theorem c33_stop_on_leaving_active (c : Cl) (s : CState) (t : Tx) (hs : s ≠ .active) (hne : c.st ≠ s)
    (hk : c.cfg.ka ≠ 0) (ha : c.kaAlive = true) (hl : c.alive = true) (ht : c.kaPingTx = some t) :
    c.setState s = (({ c with st := s } : Cl).notifyState s).finishTx t.id .keepaliveStopped := by
  obtain ⟨hslot, hkind⟩ := kaPingTx_eq_some ht
  have hn := notifyState_frame ({ c with st := s } : Cl) s
  unfold setState
  simp only [hne, if_false]
  -- `notifyState` changed `kaTick` at most, so the state after it answers like `c`
  generalize ({ c with st := s } : Cl).notifyState s = c' at hn ⊢
  have hq : c'.cfg.ka = c.cfg.ka ∧ c'.kaAlive = c.kaAlive ∧ c'.alive = c.alive ∧
      c'.slotPing.bind c'.getTx = c.slotPing.bind c.getTx := by rw [hn]; exact ⟨rfl, rfl, rfl, rfl⟩
  simp [hq, hs, hk, ha, hl, hslot, hkind]

/-- **C33.** An ended transaction has no timer: nothing of it is ever retransmitted. -/
theorem c33_no_timer_after_stop (c : Cl) (t : Tx) (e : Err) (ht : c.getTx t.id = some t) (hd : t.done = false) :
    ∀ x ∈ (c.finishTx t.id e).txs, x.id = t.id → x.timer = none ∧ x.done = true := by
  intro x hx hid
  rw [finishTx_live ht hd, runFinally_frame] at hx
  simp only [setTx, List.mem_map] at hx
  obtain ⟨z, _, rfl⟩ := hx
  -- `setTx` puts the finished record wherever the id is `t`'s; elsewhere the id is another one
  cases hz : z.id == t.id <;> simp_all

/-- **C33.** A state change is one total step: it cannot block. (Stated as: `setState` is a
    function — the content is the correspondence with the repaired `notifyStateChange`.) -/
theorem c33_state_change_never_blocks (c : Cl) (s : CState) : ∃ c', c.setState s = c' := ⟨_, rfl⟩

/-- **C33.** The end of a keep-alive exchange is nobody else's business: no API return, and the
    group is not cancelled — unless the exchange ran out of retries (the gateway is gone). When no
    tick was missed meanwhile nothing at all is sent. -/
theorem c33_keepalive_result_private (c : Cl) (w : Wait) (t : Tx) (hw : w.kind = .plain) (hc : w.call = "#keepalive")
    (ht : c.getTx w.tx = some t) (hd : t.done = true) (he : t.err = .ok ∨ t.err = .keepaliveStopped)
    (hn : w.committed = false) (hm : c.kaMissed = false) :
    (c.settleOne w).outs = c.outs ∧ (c.settleOne w).cancelledAt = c.cancelledAt ∧ (c.settleOne w).kaPinging = false := by
  unfold settleOne
  rcases he with he | he <;> simp [ht, hd, hw, hc, he, hn, hm]

/-- **C33.** A tick that came while the previous keep-alive PINGREQ was unanswered is not lost: when
    that exchange ends successfully and the client is still active, the next PINGREQ goes out at once. -/
theorem c33_missed_tick_served (c : Cl) (w : Wait) (t : Tx) (hw : w.kind = .plain) (hc : w.call = "#keepalive")
    (ht : c.getTx w.tx = some t) (hd : t.done = true) (he : t.err = .ok) (hn : w.committed = false)
    (hm : c.kaMissed = true) (hs : c.st = .active) (ha : c.alive = true) (ho : c.connClosed = false) :
    (c.settleOne w).outs = (c.now, Out.sn (encode (.pingreq []))) :: c.outs := by
  unfold settleOne
  simp only [ht, hd, hn, Bool.not_false, and_self, if_true, hw, hc, he, hm, hs, ha]
  exact (apiPing_open _ _ _ (by simpa using ho)).1

end Bisquitt.Cl
