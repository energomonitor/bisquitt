/-
  C10 — Half-open connect exchanges are reaped.

  Theorems about the model, for ALL states:
  * `c10_deadline`: the connect transaction is created with a timer at now + 5 s
    (`connectTransactionTimeout`, regenerated from the source on every run);
  * `c10_timer_kept_*`: no step of the exchange re-arms or stops that timer as long as the
    exchange is not finished — whatever the client sends and wherever it stops;
  * `c10_expire`: when the timer fires on an unfinished exchange the session is cancelled with
    "CONNECT: transaction timeout"; the end then closes the broker connection (C13 `c13_end`).
  * **all runs** — `c10_deadline_never_postponed`: take ANY reachable state, any connect exchange in it that is
    not finished, and ANY further sequence of timed events (datagrams of every kind incl. repeated CONNECTs,
    AUTH, will packets, malformed ones, broker packets, every timer on the way): afterwards the session has
    ended, or the exchange is finished, or it still has exactly the deadline it had — nothing the client or the
    broker sends "in the meantime" re-arms or postpones the timer (`Kept`, a component of the relation `F9` of
    `Lemmas/GwConnCount.lean`, carried through every model function under the invariant `I9`).  With
    `c10_deadline` (the deadline is creation + 5 s) and `c10_expire` (its expiry cancels the session) this is
    the model-level content of "ends 5 s after the CONNECT whatever other packets arrive".
  The bound "connect timeout plus one poll interval" is a statement about real time: the harness
  measures it on the real handler under the virtual clock (monitor `Spec.c10`).
-/
import Bisquitt.Lemmas.GwConnCount

namespace Bisquitt.Gw
open Bisquitt Gw

/-- **C10.** The exchange gets its deadline when it is created. -/
theorem c10_deadline (g : Gw) (f : ConnFields) :
    ∃ t, t ∈ (g.newTx (.connect .awaitingAuth f) .connectType (some (g.now + Gen.connectTransactionTimeout))).2.txs ∧
      t.id = g.nextTx ∧ t.timer = some (g.now + 5000) ∧ t.done = false :=
  ⟨{ id := g.nextTx, kind := .connect .awaitingAuth f, key := .connectType,
     timer := some (g.now + Gen.connectTransactionTimeout) },
   List.mem_append_right _ (List.mem_singleton_self _), rfl, rfl, rfl⟩

theorem c10_timer_kept (t : Tx) (k : TxKind) : ({ t with kind := k } : Tx).timer = t.timer ∧
    ({ t with kind := k } : Tx).id = t.id ∧ ({ t with kind := k } : Tx).done = t.done := ⟨rfl, rfl, rfl⟩

/-- **C10.** The only writes to the connect transaction during the exchange replace its `kind`:
    the timer armed at creation stays. -/
theorem c10_timer_kept_authenticated (g : Gw) (t : Tx) (f : ConnFields) :
    ∃ k, (g.connAuthenticated t f).txs = (g.setTx { t with kind := k }).txs := by
  unfold connAuthenticated
  split
  · exact ⟨_, snSend_txs _ _ _⟩
  · exact ⟨_, rfl⟩

theorem c10_timer_kept_willtopic (g : Gw) (t : Tx) (f : ConnFields) (q : UInt8) (r : Bool) (topic : Bytes)
    (hq : ¬ q > 2) :
    ∃ k, (g.connWillTopic t .awaitingWillTopic f q r topic).txs = (g.setTx { t with kind := k }).txs := by
  unfold connWillTopic
  simp only [ne_eq, not_true_eq_false, if_false, hq]
  exact ⟨_, snSend_txs _ _ _⟩

theorem c10_timer_kept_willmsg (g : Gw) (t : Tx) (f : ConnFields) (m : Bytes) :
    ∃ k, (g.connWillMsg t .awaitingWillMsg f m).txs = (g.setTx { t with kind := k }).txs := by
  unfold connWillMsg
  exact ⟨_, rfl⟩

theorem finishTx_cancelledAt (g : Gw) (id : Nat) : (g.finishTx id).cancelledAt = g.cancelledAt := by
  obtain ⟨x, a, b, c, h⟩ := finishTx_eq g id; rw [h]

/-- **C10.** The deadline passes on an unfinished exchange: the session is cancelled. -/
theorem c10_expire (g : Gw) (t : Tx) (st : ConnSt) (f : ConnFields) (hk : t.kind = .connect st f) (hd : t.done = false)
    (ha : g.alive = true) :
    (g.txExpire t).alive = false ∧ (g.txExpire t).endCls = .connectTimeout ∧ (g.txExpire t).outs = g.outs := by
  have e : g.txExpire t = (g.finishTx t.id).fail .connectTimeout := by
    unfold txExpire; rw [hk]; exact if_neg (by rw [hd]; exact Bool.false_ne_true)
  -- finishing the exchange does not cancel the session, so this `fail` is the first and its class is the one recorded
  have hc : (g.finishTx t.id).cancelledAt = none := (finishTx_cancelledAt g t.id).trans (Option.isNone_iff_eq_none.mp ha)
  rw [e]
  refine ⟨fail_alive _ _, ?_, by rw [fail_outs, finishTx_outs]⟩
  unfold fail; rw [hc]

/-- **C10 (ALL runs).** Whatever arrives in the meantime, an unfinished connect exchange keeps its deadline
    until it is finished or the session has ended. -/
theorem c10_deadline_never_postponed (cfg : Cfg) (a b : UInt16) (hist evs : List (Nat × Event)) (t : Tx)
    (ht : t ∈ ((Gw.init cfg a b).run hist).txs) (hk : isConnKind t.kind = true) (hd : t.done = false) :
    (((Gw.init cfg a b).run hist).run evs).endedEmitted = true ∨
    ∃ t' ∈ (((Gw.init cfg a b).run hist).run evs).txs, t'.id = t.id ∧ (t'.done = true ∨ t'.timer = t.timer) := by
  have hK := (F9.run evs _).kept ((F9.run hist _).inv (i9_init cfg a b))
  rcases hK.2 with h | h
  · exact Or.inl h
  · obtain ⟨t', ht', hid, _, _, htm⟩ := h t ht hk
    exact Or.inr ⟨t', ht', hid, htm hd⟩

/-- non-vacuity: after a CONNECT datagram (no authentication, will flag set: the exchange waits for WILLTOPIC) the
    session holds an unfinished connect exchange whose deadline is 5 s after the datagram; the WILLTOPIC 3 s later
    moves the exchange on and leaves the deadline where it was; a packet that is illegal at that point ends the
    session instead (the other disjunct) -/
example :
    let g := (Gw.init ⟨false, none, none, 10, 2, []⟩ 1 10).run [(100, .sn (encode (.connect true true 1 60 [0x63])))]
    (g.txs.map fun t => (isConnKind t.kind, t.done, t.timer)) = [(true, false, some 5100)] ∧
    ((g.run [(3100, .sn (encode (.willtopic 0 false [0x61])))]).txs.map fun t => (t.done, t.timer)) = [(false, some 5100)] ∧
    (g.run [(3100, .sn (encode (.pingreq [])))]).endedEmitted = true := by decide

end Bisquitt.Gw
