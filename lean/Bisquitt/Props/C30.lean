/-
  C30 — Predefined-topic configuration means the same in every tool.

  All three tools compute their mapping as `Cli.effective file options` (tie: the regenerated AST
  facts `Gen.cliPipeline_*` say that each tool's action calls ReadPredefinedTopicsFile, then
  ParsePredefinedTopicOptions, then Merge of the options INTO the file's map, and the cli suite
  runs the real tools).  Theorems, for ALL files, option lists, clients and IDs:
  * `entry_add`, `c30_merge`: `Merge` overrides entry by entry — the result binds (client, ID) to
    the option's name when the options bind it, otherwise to the file's;
  * `c30_options_later_wins`: among the options, a later one overrides an earlier one for the same
    (client, ID), and only for it;
  * `c30_no_client_is_star`: an option without a client ID is an entry of "*", which
    `GetTopicName` applies to every client that has no entry of its own (C05 `c05_name`);
  * `c30_effective`: the binding the tools use = the last option for (client, ID), else the file's;
  * `c30_bad_option_refuses`: an option that does not parse makes the tool refuse to start, never
    silently ignore it.
-/
import Bisquitt.Model.Cli
import Bisquitt.Gen.Facts
import Bisquitt.Lemmas.Assoc

namespace Bisquitt.Cli
open Bisquitt Predef

theorem lookup_cons_self {α β} [BEq α] [LawfulBEq α] (a : α) (b : β) (l : List (α × β)) :
    ((a, b) :: l).lookup a = some b := List.lookup_cons_self

/-- `Add` binds exactly one (client, ID) pair -/
theorem entry_add (t : Predef) (c n : Bytes) (id : UInt16) (c' : Bytes) (id' : UInt16) :
    entry (t.add c n id) c' id' = if c' = c ∧ id' = id then some n else entry t c' id' := by
  -- either way `add` puts `(id, n)` in front of the client's map, `[]` if there was none
  have h : t.add c n id = (c, (id, n) :: (t.lookup c).getD []) :: t := by
    unfold Predef.add; cases t.lookup c <;> rfl
  rw [h, entry, lookup_cons_ite]
  by_cases hc : c' = c
  · subst hc
    rw [if_pos rfl, Option.bind_some, lookup_cons_ite, entry]
    cases t.lookup c' <;> simp
  · simp [hc, entry]

theorem mem_liveIds (m : TopicMap) (id : UInt16) : id ∈ liveIds m ↔ (m.lookup id).isSome := by
  rw [liveIds, List.mem_eraseDups, lookup_isSome_iff_mem_keys]

/-- making sure the client has an inner map changes no binding -/
theorem entry_ensure (acc : Predef) (c c' : Bytes) (id' : UInt16) :
    entry (ensureClient acc c) c' id' = entry acc c' id' := by
  unfold ensureClient
  cases h : acc.lookup c with
  | some _ => rfl
  | none =>
    simp only [entry, lookup_cons_ite]
    split
    · rename_i hc; rw [hc, h]; rfl
    · rfl

theorem entry_mergeIds (m : TopicMap) (c : Bytes) (acc : Predef) (c' : Bytes) (id' : UInt16) :
    entry (mergeIds m c (liveIds m) acc) c' id' =
      if c' = c ∧ (m.lookup id').isSome then m.lookup id' else entry acc c' id' := by
  -- the loop writes ID by ID: read at (c', id') it is the write for `id'`, if `c'` is the client; a bound ID is live
  refine (foldl_read _ (entry · c' id') id' (c' = c ∧ (m.lookup id').isSome) (m.lookup id') (fun acc i => ?_) _ _).trans
    (ite_congr (propext ⟨And.right, fun h => ⟨(mem_liveIds m id').mpr h.2, h⟩⟩) (fun _ => rfl) (fun _ => rfl))
  cases hm : m.lookup i with
  | none => exact (if_neg fun ⟨e, _, h⟩ => by rw [e, hm] at h; cases h).symm
  | some n =>
    simp only [entry_add]
    by_cases h : c' = c ∧ id' = i
    · rw [if_pos h, if_pos ⟨h.2, h.1, by rw [h.2, hm]; rfl⟩, h.2, hm]
    · rw [if_neg h, if_neg fun ⟨e, hc, _⟩ => h ⟨hc, e⟩]

theorem entry_merge_client (src : Predef) (acc : Predef) (c c' : Bytes) (id' : UInt16) :
    entry (mergeClient src acc c) c' id' =
    if c' = c ∧ (entry src c' id').isSome then entry src c' id' else entry acc c' id' := by
  unfold mergeClient
  cases hs : src.lookup c with
  | none => exact (if_neg fun ⟨e, h⟩ => by rw [entry, e, hs] at h; cases h).symm
  | some m =>
    rw [entry_mergeIds, entry_ensure]
    by_cases hc : c' = c
    · rw [hc, show entry src c id' = m.lookup id' by rw [entry, hs]; rfl]
    · rw [if_neg fun h => hc h.1, if_neg fun h => hc h.1]

/-- **C30 (Merge is entry by entry).** The merged map binds (client, ID) to `src`'s name where
    `src` binds it and to the receiver's otherwise. -/
theorem c30_merge (t src : Predef) (c : Bytes) (id : UInt16) :
    entry (t.merge src) c id = match entry src c id with
      | some n => some n
      | none => entry t c id := by
  rw [Predef.merge, foldl_read _ (entry · c id) c _ _ (fun acc k => entry_merge_client src acc k c id)]
  cases hs : entry src c id with
  | none => exact if_neg fun h => nomatch h.2
  | some n =>
    -- a client with a binding in `src` is one of `src`'s keys
    have hc : c ∈ (src.map (·.1)).eraseDups := by
      rw [List.mem_eraseDups, ← lookup_isSome_iff_mem_keys]
      cases h : src.lookup c with
      | none => rw [entry, h] at hs; cases hs
      | some _ => rfl
    exact if_pos ⟨hc, rfl⟩

theorem parseOptions_snoc (opts : List Bytes) (o : Bytes) :
    parseOptions (opts ++ [o]) = (parseOptions opts).bind fun acc => optStep acc o := by
  unfold parseOptions
  rw [List.foldlM_append]
  cases h : List.foldlM optStep [] opts with
  | none => rfl
  | some acc => simp

/-- **C30 (later options override earlier ones, for the same client and ID only).** -/
theorem c30_options_later_wins (opts : List Bytes) (o : Bytes) (acc : Predef) (c n : Bytes) (id : UInt16)
    (h1 : parseOptions opts = some acc) (h2 : parseOption o = some (c, n, id)) (c' : Bytes) (id' : UInt16) :
    ∃ r, parseOptions (opts ++ [o]) = some r ∧
      entry r c' id' = if c' = c ∧ id' = id then some n else entry acc c' id' := by
  refine ⟨acc.add c n id, ?_, entry_add acc c n id c' id'⟩
  rw [parseOptions_snoc, h1]
  simp [optStep, h2]

/-- **C30 (an option without a client ID is an entry of "*").** -/
theorem c30_no_client_is_star (line name idS : Bytes) (h : splitOn 0x3B line = [name, idS]) :
    parseOption line = (parseUint16 idS).map fun id => (starId, name, id) := by
  unfold parseOption; rw [h]

theorem c30_with_client (line c name idS : Bytes) (h : splitOn 0x3B line = [c, name, idS]) :
    parseOption line = (parseUint16 idS).map fun id => (c, name, id) := by
  unfold parseOption; rw [h]

/-- **C30 (a malformed option is never ignored).** -/
theorem c30_bad_option_refuses (yaml : Predef) (opts : List Bytes) (o : Bytes) (ho : o ∈ opts) (hb : parseOption o = none) :
    effective yaml opts = none := by
  unfold effective parseOptions
  rw [foldlM_eq_none_of_mem optStep o (fun acc => by rw [optStep, hb]) opts ho]
  rfl

/-- **C30 (the mapping every tool uses).** The file's binding, overridden entry by entry by the
    options' binding. -/
theorem c30_effective (yaml : Predef) (opts : List Bytes) (m : Predef) (h : effective yaml opts = some m) :
    ∃ o, parseOptions opts = some o ∧ ∀ c id, entry m c id = match entry o c id with
      | some n => some n
      | none => entry yaml c id := by
  unfold effective at h
  cases ho : parseOptions opts with
  | none => rw [ho] at h; cases h
  | some o => rw [ho] at h; cases h; exact ⟨o, rfl, c30_merge yaml o⟩

/-- … and what a client then reads for an ID: its own binding, otherwise the "*" binding -/
theorem c30_reads (m : Predef) (c : Bytes) (id : UInt16) :
    m.getTopicName c id = match entry m c id with
      | some n => some n
      | none => entry m starId id := by
  rfl

/-- non-vacuity: file {c1: {1: a}, *: {2: b}}, options "c1;x;1" and "y;2" and again "c1;z;1":
    c1 reads 1 as z (last option) and 2 as y (the "*" option) -/
example : (effective (fromYaml [([0x63, 0x31], 1, [0x61]), ([0x2A], 2, [0x62])] [])
      [[0x63, 0x31, 0x3B, 0x78, 0x3B, 0x31], [0x79, 0x3B, 0x32], [0x63, 0x31, 0x3B, 0x7A, 0x3B, 0x31]]).map
      (fun m => (m.getTopicName [0x63, 0x31] 1, m.getTopicName [0x63, 0x31] 2)) =
    some (some [0x7A], some [0x79]) := by decide +kernel

/-! ### the three tools run the same pipeline (regenerated facts) -/

/-- the statements of a tool's action that touch the predefined-topics mapping, each with the
    conditions it is guarded by (extracted from cmd/*/actions.go on every run) -/
def expectedPipeline : List String := [
  " :: predefinedTopics := topics.PredefinedTopics{}",
  "c.IsSet(PredefinedTopicsFileFlag) :: v, err := topics.ReadPredefinedTopicsFile(c.Path(PredefinedTopicsFileFlag))",
  "c.IsSet(PredefinedTopicsFileFlag) :: predefinedTopics = v",
  "c.IsSet(PredefinedTopicFlag) :: v, err := topics.ParsePredefinedTopicOptions(c.StringSlice(PredefinedTopicFlag)...)",
  "c.IsSet(PredefinedTopicFlag) :: predefinedTopics.Merge(v)"]

/-- **C30 (same pipeline).** All three tools: the file first, then the options parsed as a whole,
    merged INTO the file's map (so options take precedence); pub and sub then only look IDs up. -/
theorem c30_same_pipeline :
    Gen.cliPipeline_bisquitt = expectedPipeline ∧
    Gen.cliPipeline_bisquitt_pub = expectedPipeline ++
      [" :: topicID, isPredefinedTopic := predefinedTopics.GetTopicID(clientID, topic)"] ∧
    Gen.cliPipeline_bisquitt_sub = expectedPipeline ++
      ["range topicList :: topicID, isPredefinedTopic := predefinedTopics.GetTopicID(clientID, topic)"] :=
  ⟨rfl, rfl, rfl⟩

end Bisquitt.Cli
