/-
  C21 — Encoding then decoding gives back the same packet.

  `Spec.Legal` is the explicit, decidable reading of "field values in their legal
  ranges".  For every legal packet of each of the 28 types (payloads and names of any
  length up to MaxPayloadLength, IDs over the full uint16 range — no enumeration):
  * `c21_roundtrip`   : decode (encode p) = ok p (and the header the constructor built),
  * `c21_lengthField` : the length field equals the datagram size,
  * `c21_form`        : the 1-byte length form is used iff the size is ≤ 255,
  * `c21_size`        : the datagram fits the transport maximum `MaxPacketLen`,
  * `c21_short_*`     : the 2-byte short-topic coding is a bijection;
  all from `encode_form` (header of `hdrFor`, then a body that decodes back and has the announced length).
-/
import Bisquitt.Lemmas.WireBody

namespace Bisquitt
open Gen Spec

/-- The datagram of a legal packet: the header for `varLen p` bytes, then a body of that size
    which decodes to `p`. -/
theorem encode_form {p : Pkt} (h : Legal p = true) :
    newHeader p = hdrFor p.typeCode (varLen p) ∧
    ∃ body, encode p = (hdrFor p.typeCode (varLen p)).packToBuffer ++ body ∧
      body.length = varLen p ∧ unpackBody p.typeCode body = .ok p := by
  have e := newHeader_eq h
  have hv : (newHeader p).varPartLength > 0 ↔ 0 < varLen p :=
    e ▸ hdrFor_varPart_pos _ _ (legal_len_bound h)
  refine ⟨e, _, ?_, packBody_length _ p hv, unpackBody_packBody _ h hv⟩
  rw [← e]; unfold encode pack newHeader
  simp only [computeLength_idem]

/-- **C21 (round trip).** -/
theorem c21_roundtrip {p : Pkt} (h : Legal p = true) : decode (encode p) = .ok (newHeader p, p) := by
  obtain ⟨e, body, eb, -, hbody⟩ := encode_form h
  rw [eb, e]; unfold decode
  rw [hdrFor_unpack _ _ (legal_len_bound h), Res.ok_bind, hdrFor_slice, Res.ok_bind, hdrFor_type, hbody]
  rfl

/-- **C21 (length field).** -/
theorem c21_lengthField {p : Pkt} (h : Legal p = true) :
    lengthField (encode p) = (encode p).length := by
  obtain ⟨-, body, eb, hlen, -⟩ := encode_form h
  rw [eb]; exact (hdrFor_lengthField _ _ (legal_len_bound h) body hlen).1

/-- **C21 (length form).** -/
theorem c21_form {p : Pkt} (h : Legal p = true) :
    usesShortForm (encode p) = decide ((encode p).length ≤ 255) := by
  obtain ⟨-, body, eb, hlen, -⟩ := encode_form h
  rw [eb]; exact (hdrFor_lengthField _ _ (legal_len_bound h) body hlen).2

/-- the datagram of a legal packet fits the transport maximum -/
theorem c21_size {p : Pkt} (h : Legal p = true) : (encode p).length ≤ Gen.MaxPacketLen := by
  obtain ⟨-, body, eb, hlen, -⟩ := encode_form h
  have hv := legal_varLen h
  have hh := packToBuffer_length (hdrFor p.typeCode (varLen p))
  rw [eb, List.length_append, hlen]
  simp only [maxPayload, MaxPayloadLength, MaxPacketLen] at hv ⊢
  omega

theorem encodeShortTopic_pair (a b : UInt8) : encodeShortTopic [a, b] = mk16 a b := by
  apply UInt16.toNat_inj.mp
  have := a.toNat_lt; have := b.toNat_lt
  simp [encodeShortTopic, mk16]
  rw [Nat.mod_eq_of_lt (by omega), Nat.mod_eq_of_lt (by omega)]
  rw [← Nat.shiftLeft_add_eq_or_of_lt (by omega), Nat.shiftLeft_eq]

/-- **C21 (short topics), names → IDs → names.** -/
theorem c21_short_name (n : Bytes) (h : n.length = 2) : decodeShortTopic (encodeShortTopic n) = n := by
  match n, h with
  | [a, b], _ => simp [decodeShortTopic, enc16, encodeShortTopic_pair, hi8_mk16, lo8_mk16]

/-- **C21 (short topics), IDs → names → IDs** (for every 16-bit ID, algebraically). -/
theorem c21_short_id (i : UInt16) : encodeShortTopic (decodeShortTopic i) = i := by
  rw [decodeShortTopic, enc16, encodeShortTopic_pair, mk16_hi_lo]

theorem c21_short_len (i : UInt16) : (decodeShortTopic i).length = 2 := rfl

/-- non-vacuity: non-trivial packets are `Legal` (a 300-byte payload crosses the header-form
    boundary; a QoS-3 short-topic PUBLISH; a string SUBSCRIBE). -/
example (d : Bytes) (h : d.length = 300) : Legal (.publish true 2 true 1 0xFFFE 0xFFFF d) = true := by
  simp [Legal, h]; decide
example : Legal (.subscribe false 1 0 7 0 [0x61, 0x2f, 0x23]) = true := by decide +kernel
example : Legal (.connect true true 1 60 [0x63]) = true := by decide +kernel

end Bisquitt
