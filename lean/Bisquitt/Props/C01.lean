/-
  C01 — Client PUBLISH reaches the broker unchanged.

  Theorems about `handleClientPublish` (the model of handler1.handlePublish for a client
  PUBLISH), for ALL states and field values:
  * `c01_forward`: when the topic ID denotes a usable name, the output log grows by EXACTLY ONE
    entry, the MQTT PUBLISH with the same payload, retain and DUP flags, QoS (3 ↦ 0), the
    message ID for QoS 1/2, and that name;
  * `c01_name`: the name is the registry binding / the predefined name for this client / the
    decoded short name, by topic-ID type;
  * `c01_drop`: when the topic ID denotes nothing (or an unusable name) nothing is forwarded —
    the log is unchanged and the session is failed.
  * **all runs** (C03's theorems at the watch of the PUBLISH packets, `watchPublish` of `Lemmas/GwPub.lean`: the frame
    `fwFrame watchPublish` carried through every model function by the walk of `Lemmas/GwFrame.lean`):
    `c01_publish_only_for_publish_datagram` — in ANY reachable state, handling ANY event that is not a
    datagram decoding to PUBLISH (every other datagram, broker packets, every timer and retransmission
    on the way, EOF, shutdown, the session end) writes NO MQTT PUBLISH; `c01_at_most_one_per_datagram` —
    a PUBLISH datagram adds at most one; `c01_publishes_bounded` — over any run the MQTT PUBLISH packets
    written are at most as many as the PUBLISH datagrams received ("exactly one", never repeated, never
    invented: `c01_forward` says which one).
  The monitor `Spec.c01` checks the same statement on the implementation's own traces, and
  the correspondence suite ties the model to the code.
-/
import Bisquitt.Lemmas.GwPub

namespace Bisquitt.Gw
open Bisquitt Gw

/-- **C01 (forwarding).** -/
theorem c01_forward (g : Gw) (dup : Bool) (q : UInt8) (r : Bool) (tit : UInt8) (tid mid : UInt16) (data topic : Bytes)
    (hres : g.resolveTopic tit tid = .ok topic) (hne : topic ≠ []) (hw : hasWildcard topic = false) :
    (g.handleClientPublish dup q r tit tid mid data).outs =
      (g.now, Out.mq (.publish dup (if q = 3 then 0 else q) r (if (if q = 3 then 0 else q) = 0 then 0 else mid) topic data))
        :: g.outs := by
  unfold handleClientPublish
  rw [hres]
  have : (topic.isEmpty || hasWildcard topic) = false := by rw [List.isEmpty_eq_false_iff.mpr hne, hw]; rfl
  simp [this, mqttSend, emit, mqQos]

/-- **C01 (the name the topic ID denotes).** -/
theorem c01_name (g : Gw) (tit : UInt8) (tid : UInt16) (topic : Bytes) (h : g.resolveTopic tit tid = .ok topic) :
    (tit = Gen.TIT_REGISTERED ∧ g.registered.lookup tid = some topic) ∨
    (tit = Gen.TIT_PREDEFINED ∧ g.cfg.predef.getTopicName g.clientId tid = some topic) ∨
    (tit = Gen.TIT_SHORT ∧ topic = decodeShortTopic tid) := by
  unfold resolveTopic at h
  split at h
  · rename_i h0
    split at h
    · rename_i hn; cases h; exact .inl ⟨h0, hn⟩
    · cases h
  · split at h
    · rename_i h1
      split at h
      · rename_i hn; cases h; exact .inr (.inl ⟨h1, hn⟩)
      · cases h
    · split at h
      · rename_i h2; cases h; exact .inr (.inr ⟨h2, rfl⟩)
      · cases h

/-- **C01 (nothing is forwarded for a topic ID that denotes nothing usable).** -/
theorem c01_drop (g : Gw) (dup : Bool) (q : UInt8) (r : Bool) (tit : UInt8) (tid mid : UInt16) (data : Bytes)
    (h : ∀ topic, g.resolveTopic tit tid = .ok topic → topic = [] ∨ hasWildcard topic = true) :
    (g.handleClientPublish dup q r tit tid mid data).outs = g.outs ∧
    (g.handleClientPublish dup q r tit tid mid data).alive = false := by
  unfold handleClientPublish
  split
  · exact ⟨fail_outs _ _, fail_alive _ _⟩
  · exact ⟨fail_outs _ _, fail_alive _ _⟩
  · rename_i topic hres
    have hc : (topic.isEmpty || hasWildcard topic) = true := by
      rcases h topic hres with h1 | h1
      · rw [h1]; rfl
      · rw [h1, Bool.or_true]
    rw [if_pos hc]
    exact ⟨fail_outs _ _, fail_alive _ _⟩

/-- **C01 (ALL runs).** In any reachable state, an event that is not a PUBLISH datagram of the client —
    any other datagram, any broker packet, every timer and retransmission fired on the way, EOF, shutdown,
    the end of the session — writes no MQTT PUBLISH to the broker. -/
theorem c01_publish_only_for_publish_datagram (cfg : Cfg) (a b : UInt16) (hist : List (Nat × Event)) (t : Nat) (ev : Event)
    (hev : publishDatagram ev = 0) :
    mqPublishes (((Gw.init cfg a b).run hist).step t ev) = mqPublishes ((Gw.init cfg a b).run hist) := by
  rw [← watched_eq, ← watched_eq]
  exact watched_unchanged watchPublish cfg a b hist t ev ((wEvent_eq ev).trans hev)

/-- **C01 (ALL runs).** A PUBLISH datagram adds at most one MQTT PUBLISH (`c01_forward`: which one). -/
theorem c01_at_most_one_per_datagram (cfg : Cfg) (a b : UInt16) (hist : List (Nat × Event)) (t : Nat) (ev : Event) :
    ∃ new, mqPublishes (((Gw.init cfg a b).run hist).step t ev) = new ++ mqPublishes ((Gw.init cfg a b).run hist) ∧
      new.length ≤ 1 := by
  obtain ⟨new, e, l⟩ := watched_step watchPublish cfg a b hist t ev
  refine ⟨new, by rw [← watched_eq, ← watched_eq]; exact e, Nat.le_trans l ?_⟩
  rw [wEvent_eq]
  unfold publishDatagram
  split
  · split
    · unfold pubBudget; split <;> decide
    · exact Nat.zero_le _
  · exact Nat.zero_le _

/-- **C01 (ALL runs).** Over any run the MQTT PUBLISH packets written are at most as many as the PUBLISH
    datagrams received. -/
theorem c01_publishes_bounded (cfg : Cfg) (a b : UInt16) (evs : List (Nat × Event)) :
    (mqPublishes ((Gw.init cfg a b).run evs)).length ≤ (evs.map fun e => publishDatagram e.2).sum := by
  rw [← watched_eq, ← funext wEvent_eq]
  exact watched_bounded watchPublish cfg a b evs

/-- non-vacuity: a PUBLISH datagram counts, a PINGREQ does not -/
example : publishDatagram (.sn (encode (.publish false 1 false 0 1 2 [0x61]))) = 1 ∧
    publishDatagram (.sn (encode (.pingreq []))) = 0 := by decide +kernel

end Bisquitt.Gw
