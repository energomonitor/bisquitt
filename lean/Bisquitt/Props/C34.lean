/-
  C34 — Sessions of vanished clients are reaped (gateway side, under the stated assumption of a
  broker that enforces keep-alive and drops connections that never send CONNECT).

  The broker is the environment: the gateway's part is (a) not to keep the broker connection alive
  on behalf of a client that has fallen silent, and (b) to end the session when the broker closes.
  Theorems about the gateway model, for ALL states:
  * `c34_pinger_stops`: a sleep pinger has a tick pending only strictly before the end of the
    announced sleep, and its cancellation removes it — after the announced sleep it never pings;
  * `c34_retries_stop`: retransmissions (to either side) stop once the retry budget is used up (C16);
  * `c34_broker_eof_ends`: the broker closing the connection cancels the session in that very step
    (C13 `c13_causes`, `c13_step_ends` emit the end), and
  * `c34_half_open_connect`: before the connect exchange has completed, the connect timer ends the
    session (C10 `c10_expire`).
  Every other packet to the broker is the immediate translation of a client datagram or the answer
  to a broker packet (C01–C03), so a silent client produces none.  The monitor `Spec.c34` checks on
  implementation traces (generator profile `keepalive`: the client vanishes at a random point, the
  case runs on for several keep-alive periods, sometimes with the broker's EOF) that nothing is sent
  to the broker of the gateway's own accord after the announced sleep plus the retry budget, and
  the session-end rules of C13 apply to the broker's EOF.
-/
import Bisquitt.Props.C13
import Bisquitt.Props.C16
import Bisquitt.Props.C10

namespace Bisquitt.Gw
open Bisquitt Gw

/-- **C34.** A pinger ticks only before the end of the announced sleep. -/
theorem c34_pinger_stops (p : Pinger) (i t : Nat) :
    ∀ d ∈ pingerDue p i t, ∀ j at_, d = Due.ping j at_ → at_ < p.cancelAt := by
  intro d hd j at_ he
  subst he
  unfold pingerDue at hd
  rcases List.mem_append.mp hd with h | h
  · split at h
    · cases List.mem_singleton.mp h
    · cases h
  · split at h
    · rename_i hc; cases List.mem_singleton.mp h; exact hc.2
    · cases h

/-- … and its cancellation removes it for good. -/
theorem c34_pinger_cancelled (g : Gw) (i : Nat) : (g.dropPinger i).pingers = g.pingers.eraseIdx i := rfl

/-- **C34.** Retransmissions end with the retry budget. -/
theorem c34_retries_stop (g : Gw) (t : Tx) (q : UInt8) (st : BpSt) (data : BpData) (snp : Option Pkt) (n : Nat)
    (hk : t.kind = .brokerPub q st data snp n) (hd : t.done = false) (hb : n + 1 > g.cfg.retryCount) :
    (g.retryExpire t).outs = g.outs := by
  by_cases hs : g.st = .asleep ∧ data.toClient = true
  · -- suspended while the client sleeps: nothing is sent either (and the sleep itself is bounded: C11 / `c34_pinger_stops`)
    unfold retryExpire
    simp [hk, hd, hs]
  · exact (c16_retry_gives_up g t q st data snp n hk hd hb hs).2

/-- **C34.** The broker closing the connection cancels the session at once. -/
theorem c34_broker_eof_ends (g : Gw) : (g.handleEvent .mqEof).alive = false :=
  c13_causes g .mqEof (Or.inr (Or.inl rfl))

/-- **C34.** A connect exchange that never completes is ended by its timer. -/
theorem c34_half_open_connect (g : Gw) (t : Tx) (st : ConnSt) (f : ConnFields) (hk : t.kind = .connect st f)
    (hd : t.done = false) (ha : g.alive = true) : (g.txExpire t).alive = false :=
  (c10_expire g t st f hk hd ha).1

/-- **C34.** A new sleep period replaces the pinger of the previous one: at most one pinger runs,
    the one started for the period announced now; it is cancelled at the end of that period. -/
theorem c34_pinger_replaced (g : Gw) (d : UInt16) :
    (g.handleSleep d).pingers =
      if g.keepAlive ≠ 0 then
        [{ next := g.now + g.keepAlive.toNat * 1000, cancelAt := g.now + d.toNat * 1000, period := g.keepAlive.toNat * 1000 }]
      else [] := by
  rw [handleSleep_eq]
  exact (ite_not ..).symm

/-- **C34.** A wake-up (PINGREQ of a sleeping client) starts the next sleep cycle: again one pinger, which
    is cancelled one announced duration after THIS wake-up — a client that never wakes up again is
    pinged for no longer than the duration it announced. -/
theorem c34_pinger_of_the_next_cycle (g : Gw) (h : g.st = .asleep) :
    g.handlePingreq.pingers =
      if g.keepAlive ≠ 0 then
        [{ next := g.now + g.keepAlive.toNat * 1000, cancelAt := g.now + g.sleepDur.toNat * 1000,
           period := g.keepAlive.toNat * 1000 }]
      else [] := by
  rw [handlePingreq_asleep g h]
  exact (ite_not ..).symm

/-- **C34.** A sleeping client that re-CONNECTs has no pinger any more: from then on only its own
    traffic keeps the broker connection alive, so a client vanishing afterwards is dropped by the broker. -/
theorem c34_pinger_cancelled_on_reconnect (g : Gw) (will clean : Bool) (dur : UInt16) (cid : Bytes)
    (h : g.st = .awake ∨ g.st = .asleep) : (g.handleConnect will clean dur cid).pingers = [] := by
  unfold handleConnect
  rw [if_pos h]
  obtain ⟨n', _, e'⟩ := flushBuffer_eq (({ g.cancelSleepPinger with st := .active } : Gw).snSend (.connack Gen.RC_ACCEPTED))
  rw [e']
  rfl

end Bisquitt.Gw
