/-
  C31 — Credentials are never sent in plaintext unless explicitly allowed.

  Tools: `Cli.refusesToStart creds dtls insecure` (Model/Cli.lean) is the start-up guard; the
  regenerated facts `Gen.cliGuard_*` are the conditions under which each tool's action returns its
  "insecure" error (extracted from cmd/*/actions.go on every run), and the cli suite runs the real
  tools with every combination of the three inputs that can be run without a DTLS peer.  This file
  holds no theorem about the tools.
  Client library: every CONNECT goes out through `connectAttempt`; `connectAttempt_outs` says what
  it puts on the wire, `c31_client_auth_after_connect` and `c31_client_no_auth_without_user` are
  its two cases — see the client suite.
-/
import Bisquitt.Lemmas.Client

namespace Bisquitt.Cl
open Bisquitt Cl

/-- What `sendConnect` puts on the wire: the CONNECT and, right behind it, AUTH PLAIN iff a user
    is configured. -/
theorem sendConnect_outs (c : Cl) (call : String) (id i : Nat) (ho : c.connClosed = false) :
    (c.sendConnect call id i).outs =
      (match c.cfg.user with
       | some u => [(c.now, Out.sn (encode (plainAuth u c.cfg.pass)))]
       | none => []) ++ (c.now, Out.sn (encode c.connectPkt)) :: c.outs := by
  rw [sendConnect, if_neg (by rw [ho]; exact Bool.false_ne_true)]
  show (match c.cfg.user with | some u => _ | none => _ : Cl).outs = _
  cases c.cfg.user <;> rfl

/-- … and so does one iteration of `Connect()`'s loop, which sends nothing else. -/
theorem connectAttempt_outs (c : Cl) (call : String) (i : Nat) (ho : c.connClosed = false) :
    (c.connectAttempt call i).outs =
      (match c.cfg.user with
       | some u => [(c.now, Out.sn (encode (plainAuth u c.cfg.pass)))]
       | none => []) ++ (c.now, Out.sn (encode c.connectPkt)) :: c.outs := by
  unfold connectAttempt
  rw [armConnectTimer_frame]
  -- the transaction is stored and armed first: that changes neither `connClosed` nor what `sendConnect` reads
  unfold store newTx
  exact sendConnect_outs _ call _ i ho

/-- **C31 (client library).** Every CONNECT the client sends — the first one and every retry of
    the connect loop go through `connectAttempt` — is followed at once by AUTH PLAIN with the
    configured credentials when a user is configured … -/
theorem c31_client_auth_after_connect (c : Cl) (call : String) (i : Nat) (u : Bytes) (hu : c.cfg.user = some u)
    (ho : c.connClosed = false) :
    (c.connectAttempt call i).outs =
      (c.now, Out.sn (encode (plainAuth u c.cfg.pass))) :: (c.now, Out.sn (encode c.connectPkt)) :: c.outs := by
  rw [connectAttempt_outs c call i ho, hu]; rfl

/-- … and by nothing when no user is configured: the CONNECT alone. -/
theorem c31_client_no_auth_without_user (c : Cl) (call : String) (i : Nat) (hu : c.cfg.user = none)
    (ho : c.connClosed = false) :
    (c.connectAttempt call i).outs = (c.now, Out.sn (encode c.connectPkt)) :: c.outs := by
  rw [connectAttempt_outs c call i ho, hu]; rfl

end Bisquitt.Cl
