/-
  C15 — Client sessions are isolated from each other.

  In the model the gateway is a map from peer addresses to sessions and an event belongs to one
  session (Model/Sessions.lean).  Theorems, for ALL gateways, addresses and event histories:
  * `c15_isolation`: an event of one peer's session leaves every other peer's session untouched;
  * `c15_own`: it acts on its own session exactly as if that session were alone;
  * `c15_projection`: after ANY interleaved history of all peers, the session of a peer is the one
    its own events alone produce — so what it sends and accepts does not depend on the others.
  That is true of the model by construction; the content of the check is the tie:
  * `c15_no_shared_state` (regenerated fact): the gateway package has no package-level variable
    besides its error sentinels, so handlers share only what `ListenAndServe` hands to each of them;
  * the cli suite runs the REAL gateway (Application.Run, accept loop, per-session goroutines)
    with two peers: an observed conversation (will + AUTH connect, REGISTER, SUBSCRIBE, PUBLISH,
    broker message on an unregistered topic, PINGREQ, DISCONNECT) is run alone and again with a
    second peer connecting (before or after), registering, subscribing, sending garbage and dying in
    between; what the observed peer receives and what the broker receives on ITS connection
    (credentials, will, topics) must be identical (`MON C15 interference`).
-/
import Bisquitt.Model.Sessions
import Bisquitt.Gen.Facts
import Bisquitt.Lemmas.Assoc

namespace Bisquitt.Gw
open Bisquitt Gw

theorem session_step (gw : Gateway) (a b t : Nat) (ev : Gw.Event) :
    (gw.step a t ev).session b = if b = a then (gw.session a).step t ev else gw.session b := by
  show (((a, (gw.session a).step t ev) :: gw.sessions).lookup b).getD _ = _
  rw [lookup_cons_ite]
  split
  · exact Option.getD_some   -- not `rfl`, which unfolds `Gw.step` first
  · rfl

/-- **C15.** -/
theorem c15_isolation (gw : Gateway) (a b t : Nat) (ev : Gw.Event) (h : b ≠ a) :
    (gw.step a t ev).session b = gw.session b := by
  rw [session_step, if_neg h]

/-- **C15.** -/
theorem c15_own (gw : Gateway) (a t : Nat) (ev : Gw.Event) :
    (gw.step a t ev).session a = (gw.session a).step t ev := by
  rw [session_step, if_pos rfl]

theorem step_cfg (gw : Gateway) (a t : Nat) (ev : Gw.Event) :
    (gw.step a t ev).cfg = gw.cfg ∧ (gw.step a t ev).idMin = gw.idMin ∧ (gw.step a t ev).idMax = gw.idMax := ⟨rfl, rfl, rfl⟩

/-- the events of peer `b` in a global history -/
def eventsOf (b : Nat) (evs : List (Nat × Nat × Gw.Event)) : List (Nat × Gw.Event) :=
  (evs.filter (·.1 == b)).map (·.2)

/-- **C15 (projection).** After any interleaved history, a peer's session is what its own events
    alone produce. -/
theorem c15_projection (evs : List (Nat × Nat × Gw.Event)) : ∀ (gw : Gateway) (b : Nat),
    (gw.run evs).session b = (gw.session b).run (eventsOf b evs) := by
  induction evs with
  | nil => intro gw b; rfl
  | cons e rest ih =>
    intro gw b
    obtain ⟨a, t, ev⟩ := e
    show ((gw.step a t ev).run rest).session b = _
    rw [ih, session_step]
    by_cases h : a = b
    · subst h; simp [eventsOf, Gw.run]
    · simp [eventsOf, h, Ne.symm h]

/-- **C15 (no state shared through the package).** -/
theorem c15_no_shared_state : Gen.packageVars_gateway =
    ["Cancelled = errors.New(\"transaction cancelled\")",
     "ErrIllegalPacketWhenDisconnected = errors.New(\"illegal packet in disconnected state\")",
     "ErrMqttConnClosed = errors.New(\"MQTT broker closed connection\")",
     "ErrTopicIDsExhausted = errors.New(\"no more TopicIDs available\")",
     "Shutdown = errors.New(\"clean shutdown\")"] := rfl

end Bisquitt.Gw
