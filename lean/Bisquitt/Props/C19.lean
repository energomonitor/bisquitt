/-
  C19 — Retry and timeout budgets are exact.
  For ALL retry counts N, delays D and start times t0 (no bounded range): a retry transaction
  that makes no progress after `Proceed` at t0 calls its callback exactly at t0 + k·D,
  k = 1..N, and fails with `noMoreRetries` at t0 + (N+1)·D; a later `Proceed` restarts the
  same schedule from its own time (the statement is about any live transaction state);
  a timed transaction created at t0 fails with `timeout` exactly at t0 + T unless completed
  before.
-/
import Bisquitt.Model.Tx

namespace Bisquitt.Tx
open Retry

def noErr : Nat → Option Nat := fun _ => none

theorem proceed_live (r : Retry) (t : Nat) (hnd : r.base.done = false) :
    r.proceed t = { r with retryNum := 0, timer := some (t + r.delay) } := by
  simp [Retry.proceed, hnd]

theorem expire_retry (r : Retry) (d : Nat) (hnd : r.base.done = false) (hlt : r.retryNum < r.count) :
    r.expire d noErr = { r with retryNum := r.retryNum + 1, cbs := r.cbs + 1,
                                log := Obs.cb d (r.cbs + 1) :: r.log, timer := some (d + r.delay) } := by
  simp [Retry.expire, hnd, noErr, Nat.not_lt.mpr hlt]

theorem expire_last (r : Retry) (d : Nat) (hnd : r.base.done = false) (hge : r.retryNum = r.count) :
    r.expire d noErr = { r with retryNum := r.retryNum + 1, timer := none, base := r.base.fail .noMoreRetries,
                                log := Obs.done d (some .noMoreRetries) :: r.log } := by
  simp [Retry.expire, hnd, hge, noteDone, Base.fail]

theorem runUntil_due (e : Nat → Option Nat) (fuel : Nat) {r : Retry} {d T : Nat} (ht : r.timer = some d) (hd : d ≤ T) :
    runUntil e (fuel + 1) r T = runUntil e fuel (r.expire d e) T := by
  rw [runUntil, ht]; exact if_pos hd

theorem runUntil_quiet (e : Nat → Option Nat) (fuel : Nat) {r : Retry} {T : Nat} (h : ∀ d, r.timer = some d → T < d) :
    runUntil e fuel r T = r := by
  cases fuel with
  | zero => rfl
  | succ f =>
    rw [runUntil]
    split
    · next d hd => exact if_neg (Nat.not_le.mpr (h d hd))
    · rfl

/-- `j` expiries in a row of a transaction nobody touches, when the live timer expires at `d`, at
    least `j` retries are left and each of them, the `i`-th at `d + i·delay`, is due at `T`. -/
theorem runUntil_retries (r : Retry) (d T : Nat) (hnd : r.base.done = false) (ht : r.timer = some d) :
    ∀ (j fuel : Nat), r.retryNum + j ≤ r.count → (∀ i < j, d + i * r.delay ≤ T) →
      runUntil noErr (fuel + j) r T =
        runUntil noErr fuel { r with retryNum := r.retryNum + j, cbs := r.cbs + j, timer := some (d + j * r.delay),
                                     log := ((List.range j).map fun i => Obs.cb (d + i * r.delay) (r.cbs + i + 1)).reverse
                                       ++ r.log } T := by
  -- `r` stays fixed: the expiry that is added comes last, after the `j` of the hypothesis taken with
  -- one more unit of fuel; peeling off the first one would change `r`, `d` and `cbs` under the induction
  intro j
  induction j with
  | zero => intro fuel _ _; simp [← ht]
  | succ j ih =>
    intro fuel hj hT
    have hlt : r.retryNum + j < r.count := hj
    rw [← Nat.add_assoc, Nat.add_right_comm, ih (fuel + 1) (Nat.le_of_lt hlt) fun i hi => hT i (Nat.lt_succ_of_lt hi),
      runUntil_due noErr fuel rfl (hT j (Nat.lt_succ_self j))]
    simp only [expire_retry, hnd, hlt, List.range_succ, List.map_append, List.map_cons, List.map_nil,
      List.reverse_append, List.reverse_cons, List.reverse_nil, List.nil_append, List.cons_append, Nat.succ_mul,
      Nat.add_assoc]

/-- the whole budget: with `m` retries left, `m` callbacks and then the failure, one period apart -/
theorem runUntil_budget (r : Retry) (d T m fuel : Nat) (hnd : r.base.done = false) (ht : r.timer = some d)
    (hm : r.retryNum + m = r.count) (hT : d + m * r.delay ≤ T) (hf : m + 1 ≤ fuel) :
    runUntil noErr fuel r T =
      { r with retryNum := r.count + 1, cbs := r.cbs + m, timer := none, base := r.base.fail .noMoreRetries,
               log := Obs.done (d + m * r.delay) (some .noMoreRetries) ::
                 ((List.range m).map fun i => Obs.cb (d + i * r.delay) (r.cbs + i + 1)).reverse ++ r.log } := by
  obtain ⟨fuel, rfl⟩ := Nat.exists_eq_add_of_le' hf
  have hdue : ∀ i < m, d + i * r.delay ≤ T := fun i hi =>
    Nat.le_trans (Nat.add_le_add_left (Nat.mul_le_mul_right _ (Nat.le_of_lt hi)) _) hT
  rw [← Nat.add_assoc, Nat.add_right_comm, runUntil_retries r d T hnd ht m (fuel + 1) (Nat.le_of_eq hm) hdue,
    runUntil_due noErr fuel rfl hT]
  simp only [expire_last, hnd, hm]
  exact runUntil_quiet noErr fuel fun _ h => nomatch h

/-- **C19 (retry budget).** After `Proceed` at `t0` on a live transaction and silence until
    `t0 + (N+1)·D`: callbacks exactly at `t0 + k·D` (k = 1..N) — the `k`-th being the
    (cbs+k)-th callback overall — then `noMoreRetries` at `t0 + (N+1)·D`. -/
theorem c19_retry (N D t0 : Nat) (r : Retry) (hb : r.base = {}) (hc : r.count = N) (hd : r.delay = D) :
    let r' := runUntil noErr (N + 2) (r.proceed t0) (t0 + (N + 1) * D)
    r'.log.reverse = r.log.reverse ++
        ((List.range N).map fun i => Obs.cb (t0 + (i + 1) * D) (r.cbs + i + 1)) ++
        [Obs.done (t0 + (N + 1) * D) (some .noMoreRetries)] ∧
    r'.base = { done := true, err := some .noMoreRetries, finallyRuns := 1 } := by
  subst hc hd
  have hnd : r.base.done = false := by rw [hb]
  have key := runUntil_budget { r with retryNum := 0, timer := some (t0 + r.delay) } (t0 + r.delay)
    (t0 + (r.count + 1) * r.delay) r.count (r.count + 2) hnd rfl (Nat.zero_add _)
    (Nat.le_of_eq (by rw [Nat.succ_mul, Nat.add_assoc, Nat.add_comm r.delay])) (Nat.le_succ _)
  simp only [proceed_live r t0 hnd, key]
  simp [hb, Base.fail, Nat.succ_mul, Nat.add_assoc, Nat.add_comm r.delay]

/-- nothing happens before the first deadline: a strictly earlier time sees no callback -/
theorem c19_retry_quiet (D t0 t fuel : Nat) (r : Retry) (hb : r.base = {}) (hd : r.delay = D)
    (ht : t < t0 + D) : runUntil noErr fuel (r.proceed t0) t = r.proceed t0 := by
  rw [proceed_live r t0 (by rw [hb])]
  exact runUntil_quiet noErr fuel fun d h => by cases h; rw [hd]; exact ht

/-- **C19 (progress resets the budget).** `Proceed` puts the transaction into the same state
    whatever the number of retries already used: the next schedule starts from scratch. -/
theorem c19_proceed_resets (r : Retry) (t : Nat) (hb : r.base.done = false) :
    (r.proceed t).retryNum = 0 ∧ (r.proceed t).timer = some (t + r.delay) := by
  rw [proceed_live r t hb]; exact ⟨rfl, rfl⟩

/-- **C19 (timed transaction).** Created at `t0` with timeout `T`: at any time `t`, without a
    completion, the error is `timeout` iff `t ≥ t0 + T`, and the failure is stamped `t0 + T`. -/
theorem c19_timed (t0 T t : Nat) :
    let r := (Timed.new t0 T).runUntil t
    (r.base.err = some .timeout ↔ t0 + T ≤ t) ∧
    (t0 + T ≤ t → r.log = [Obs.done (t0 + T) (some .timeout)]) ∧
    (t < t0 + T → r.base.done = false) := by
  simp only [Timed.new, Timed.runUntil]
  by_cases h : t0 + T ≤ t
  · simp [h, Timed.noteDone, Base.fail]
  · simp [h]

/-- a completion before the deadline wins: no timeout afterwards -/
theorem c19_timed_completed (t0 T ts t : Nat) (hs : ts < t0 + T) :
    (((Timed.new t0 T).runUntil ts).success ts).runUntil t =
      ((Timed.new t0 T).runUntil ts).success ts ∧
    ((((Timed.new t0 T).runUntil ts).success ts).runUntil t).base.err = none := by
  have h1 : (Timed.new t0 T).runUntil ts = Timed.new t0 T := if_neg (Nat.not_le.mpr hs)
  rw [h1]
  -- the completion has stopped the timer
  exact ⟨rfl, rfl⟩

/-- non-vacuity: N = 2, D = 10 s, t0 = 5 -/
example : ((runUntil noErr 4 (({ delay := 10000, count := 2 } : Retry).proceed 5) 30005).log.reverse) =
    [Obs.cb 10005 1, Obs.cb 20005 2, Obs.done 30005 (some .noMoreRetries)] := by decide +kernel

end Bisquitt.Tx
