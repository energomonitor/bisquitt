/-
  C24 — Every MQTT packet sent to the broker is valid MQTT 3.1.1.

  `Spec.valid311` is the statement of validity the monitor also uses (QoS 0-2, PUBLISH topic
  non-empty and wildcard-free, filters non-empty, CONNECT will flag ⇔ non-empty will topic, will
  QoS ≤ 2).  Theorem: in EVERY run of the gateway model — any configuration, any sequence of
  datagrams (decodable or not), broker packets, broker EOF/garbage, shutdowns and timer firings at
  any times — every MQTT packet the model emits satisfies it.  The proof goes through the
  per-site permissions of `Lemmas/GwEmits.lean`: packets parked in transactions (for resending)
  and the CONNECT under construction (`ConnInv`) carry the invariant between steps.
-/
import Bisquitt.Lemmas.GwRun
import Bisquitt.Spec.Gateway

namespace Bisquitt.Gw
open Bisquitt Gw Spec

theorem le2_of_not_gt {q : UInt8} (h : q ≤ 2) : decide (q ≤ 2) = true := by simpa using h

theorem sites_c24 : Sites (fun _ => True) (fun p => valid311 p = true) :=
  { Sites.top with
    mqConnect := fun f h => by
      simp only [ConnFields.toPkt, valid311, Bool.and_eq_true, beq_iff_eq, decide_eq_true_eq]
      exact ⟨h.1, h.2⟩
    mqPublish := fun _ q _ _ topic _ hq hne hw => by
      simp only [valid311, Bool.and_eq_true, decide_eq_true_eq, Bool.not_eq_true', hw, and_true]
      exact ⟨hq, List.isEmpty_eq_false_iff.mpr hne⟩
    mqSubscribe := fun _ _ topic q hne hq => by
      simp only [valid311, Bool.and_eq_true, decide_eq_true_eq, Bool.not_eq_true']
      exact ⟨List.isEmpty_eq_false_iff.mpr hne, hq⟩
    mqUnsubscribe := fun _ topic hne => by
      simp only [valid311, Bool.not_eq_true']
      exact List.isEmpty_eq_false_iff.mpr hne
    mqPuback := fun _ => rfl
    mqPubrec := fun _ => rfl
    mqPubrel := fun _ => rfl
    mqPubcomp := fun _ => rfl
    mqPingreq := rfl }

/-- **C24.** Every MQTT packet in the output of every run is valid MQTT 3.1.1. -/
theorem c24 (cfg : Cfg) (idMin idMax : UInt16) (evs : List (Nat × Event)) (t : Nat) (p : MqPkt)
    (h : (t, Out.mq p) ∈ ((Gw.init cfg idMin idMax).run evs).outs) : valid311 p = true :=
  (run_outs sites_c24 cfg idMin idMax evs _ h).elim id fun h1 => h1 ▸ rfl

/-- the same, as the monitor the check runs on the implementation's own traces: on a trace
    made of the model's outputs the monitor `Spec.c24` reports nothing -/
theorem c24_monitor (cfg : Cfg) (idMin idMax : UInt16) (evs : List (Nat × Event)) :
    Spec.c24 ((((Gw.init cfg idMin idMax).run evs).outs.reverse).map fun x => TE.out x.1 x.2) = [] := by
  unfold Spec.c24
  rw [List.filterMap_eq_nil_iff]
  intro e he
  simp only [List.mem_map, List.mem_reverse] at he
  obtain ⟨x, hx, rfl⟩ := he
  obtain ⟨t, o⟩ := x
  cases o <;> simp only
  rename_i p
  rw [c24 cfg idMin idMax evs t p hx]
  rfl

/-- non-vacuity: the fields of a will CONNECT exchange (will flag set, will QoS 1, topic and message there) are a
    valid CONNECT as far as the will is concerned -/
example : ConnOk (ConnFields.mk [0x63] true 10 false [] false [] true 1 false [0x74] [0x6d]) := by
  constructor <;> decide

/-- **C24 (tie of the all-runs theorems).** The inventory of places where the gateway's code writes to the broker
    link — every call of `mqttSend`, `pingBroker`, `ProceedMQTT` in the package, regenerated from the source on every
    run — is the reviewed one the model was written against: `handleClientPublish` (model `handleClientPublish`),
    the PUBREL / PINGREQ / DISCONNECT cases of `handleMqttSn` (`handleSn`, `handlePingreq`, `handlePlainDisconnect`),
    `handleSubscribe` / `handleUnsubscribe` (`forwardSubscribe` / `forwardUnsubscribe`), the connect transaction's
    `authenticated` / `WillMsg` (`connAuthenticated` / `connWillMsg`), `ProceedMQTT` with its three callers
    (`proceedMQ` for PUBACK / PUBREC / PUBCOMP), `resend` (`retryExpire`), and `pingBroker` with its two callers
    (`keepBrokerAlive`, `firePing`).  A change that adds, removes or moves such a call breaks this obligation. -/
theorem c24_emission_sites :
    Gen.mqttSendSites_gateway =
     ["broker_publish_qos1_transaction.go:Puback:ProceedMQTT",
      "broker_publish_qos2_transaction.go:Pubcomp:ProceedMQTT",
      "broker_publish_qos2_transaction.go:Pubrec:ProceedMQTT",
      "broker_publish_transaction.go:ProceedMQTT:mqttSend",
      "broker_publish_transaction.go:resend:mqttSend",
      "connect_transaction.go:WillMsg:mqttSend",
      "connect_transaction.go:authenticated:mqttSend",
      "handler1.go:handleClientPublish:mqttSend",
      "handler1.go:handleMqttSn:mqttSend",
      "handler1.go:handleMqttSn:mqttSend",
      "handler1.go:handleMqttSn:mqttSend",
      "handler1.go:handleSubscribe:mqttSend",
      "handler1.go:handleUnsubscribe:mqttSend",
      "handler1.go:keepBrokerAlive:pingBroker",
      "handler1.go:pingBroker:mqttSend",
      "handler1.go:startSleepPinger:pingBroker"] := rfl

end Bisquitt.Gw
