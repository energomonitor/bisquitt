/-
  C05 — Predefined topic lookups are mutually consistent.
  For every configuration (any number of clients, IDs, names; overlapping freely), client
  ID and name.
-/
import Bisquitt.Spec.Topics

namespace Bisquitt
open Spec Predef

/-- **C05 (lookup by ID).** -/
theorem c05_name (t : Predef) (c : Bytes) (id : UInt16) :
    getTopicName t c id = specName t c id := by
  unfold getTopicName specName
  cases (t.lookup c).bind (·.lookup id) <;> rfl

theorem mem_idsWithName {m : TopicMap} {name : Bytes} {id : UInt16}
    (h : id ∈ idsWithName m name) : m.lookup id = some name := by
  simpa using (List.mem_filter.mp h).2

/-- **C05 (lookup by name is sound).** Every admissible answer of `GetTopicID` reads back, for
    the same client, as exactly that name. -/
theorem c05_id_sound (t : Predef) (c name : Bytes) (id : UInt16)
    (h : id ∈ getTopicIdSet t c name) : getTopicName t c id = some name := by
  unfold getTopicIdSet at h
  unfold getTopicName
  -- an answer from the "*" map `o`: the second branch of `GetTopicName`, once the first is known to be empty
  have star : ∀ {p : UInt16 → Bool} {o : Option TopicMap}, (id ∈ match o with
        | some all => (idsWithName all name).filter p
        | none => []) → o.bind (·.lookup id) = some name ∧ p id = true := by
    intro p o h
    cases o with
    | none => cases h
    | some all => exact ⟨mem_idsWithName (List.mem_filter.mp h).1, (List.mem_filter.mp h).2⟩
  cases hc : t.lookup c with
  | none =>
    simp only [hc] at h
    rw [Option.bind_none, (star h).1]
  | some m =>
    simp only [hc] at h
    split at h
    · rw [Option.bind_some, mem_idsWithName h]
    · obtain ⟨hs, hn⟩ := star h
      rw [Option.bind_some, Option.isNone_iff_eq_none.mp hn, hs]

/-- **C05 (corollary used by C02/C32).** an ID the gateway derives from a name is read back by
    the client (same configuration, same client ID) as that name. -/
theorem c05_readback (t : Predef) (c name : Bytes) (id : UInt16)
    (h : id ∈ getTopicIdSet t c name) : specName t c id = some name := by
  rw [← c05_name]; exact c05_id_sound t c name id h

/-- non-vacuity on the repository's own testdata shape: `*` maps 1 ↦ device/any/data while
    client1 shadows ID 1; the `*` answer is *not* admissible for client1, but is for others. -/
example :
    let t : Predef := [ ([0x63, 0x31], [(1, [0x78])]), (starId, [(1, [0x79]), (2, [0x7A])]) ]
    getTopicIdSet t [0x63, 0x31] [0x79] = [] ∧ getTopicIdSet t [0x63, 0x32] [0x79] = [1] ∧
    getTopicIdSet t [0x63, 0x31] [0x7A] = [2] := by decide

end Bisquitt
