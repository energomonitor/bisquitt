/-
  C14 — Last will is cancelled only by a plain client DISCONNECT.

  Theorem `c14`: take ANY reachable state of the gateway model (any configuration and event
  history) and ANY next event at any time.  Unless that event is a datagram that decodes to a
  DISCONNECT without duration, nothing the model emits while handling it — including every
  timer that fires on the way, the session end (timeout, illegal packet, decode error,
  shutdown, broker EOF) and going to sleep — is an MQTT DISCONNECT.
  `c14_end`: the session end itself closes the broker connection (`mqClose`) and never sends one.
-/
import Bisquitt.Lemmas.GwRun

namespace Bisquitt.Gw
open Bisquitt Gw Spec

/-- the event is a datagram that decodes to a plain DISCONNECT -/
def isPlainDisconnect : Event → Prop
  | .sn bytes => ∃ h, decode (bytes.take Gen.MaxPacketLen) = .ok (h, .disconnect 0)
  | _ => False

theorem sites_c14 : Sites (fun _ => True) (fun p => p ≠ .disconnect) :=
  { Sites.top with
    mqConnect := fun f _ => by simp [ConnFields.toPkt]
    mqPublish := fun _ _ _ _ _ _ _ _ _ => by simp
    mqSubscribe := fun _ _ _ _ _ _ => by simp
    mqUnsubscribe := fun _ _ _ => by simp
    mqPuback := fun _ => by simp
    mqPubrec := fun _ => by simp
    mqPubrel := fun _ => by simp
    mqPubcomp := fun _ => by simp
    mqPingreq := by simp }

/-- **C14.** From any reachable state, handling any event other than a plain client DISCONNECT
    extends the output log by outputs none of which is an MQTT DISCONNECT. -/
theorem c14 (cfg : Cfg) (idMin idMax : UInt16) (hist : List (Nat × Event)) (t : Nat) (ev : Event)
    (hev : ¬ isPlainDisconnect ev) :
    ∃ new, (((Gw.init cfg idMin idMax).run hist).step t ev).outs = new ++ ((Gw.init cfg idMin idMax).run hist).outs ∧
      ∀ x ∈ new, x.2 ≠ Out.mq .disconnect := by
  have hd : AllowsDisconnect (fun _ => False) ev := by
    unfold AllowsDisconnect
    split
    · exact hev
    · trivial
  obtain ⟨new, hnew, hall⟩ := (step_spec sites_c14 _ t ev hd (run_wf sites_c14 cfg idMin idMax hist)).1
  refine ⟨new, hnew, fun x hx e => ?_⟩
  have := hall x hx
  rw [e] at this
  exact this.elim (fun h => h rfl) id

/-- the session end closes the broker connection and sends no MQTT packet at all -/
theorem c14_end (g : Gw) (tc : Nat) (hc : g.cancelledAt = some tc) (he : g.endedEmitted = false) :
    (tc, Out.mqClose) ∈ g.finishSession.outs ∧
    ∀ x ∈ g.finishSession.outs, (∃ p, x.2 = Out.mq p) → x ∈ g.outs := by
  rw [finishSession_eq g tc hc he]
  refine ⟨List.mem_cons_self, fun x hx ⟨p, hp⟩ => ?_⟩
  simp only [List.mem_cons, List.mem_append] at hx
  rcases hx with rfl | rfl | hx | hx
  · cases hp
  · cases hp
  · split at hx
    · rw [List.mem_singleton.mp hx] at hp; cases hp
    · cases hx
  · exact hx

/-- non-vacuity: the plain DISCONNECT datagram `02 18` is the excluded event, `04 18 00 05`
    (sleep for 5 s) is not -/
example : isPlainDisconnect (.sn [2, 0x18]) :=
  ⟨{ pktLength := 2, pktType := 0x18, long := false }, by decide +kernel⟩
example : ¬ isPlainDisconnect (.sn [4, 0x18, 0, 5]) := by
  intro ⟨h, hd⟩
  have : decode (List.take Gen.MaxPacketLen [4, 0x18, 0, 5]) =
      .ok ({ pktLength := 4, pktType := 0x18, long := false }, .disconnect 5) := by decide +kernel
  rw [this] at hd
  simp at hd

end Bisquitt.Gw
