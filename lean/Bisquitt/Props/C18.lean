/-
  C18 — A finished transaction stays finished.

  Schedule quantifier: `Adv` is the retry transaction at method-atomic granularity (every
  method body runs under one mutex; that any interleaving of such bodies is a sequence of them
  is `sync.Mutex`'s semantics, trusted, not a Lean theorem) with an adversarial timer: the callback of ANY timer generation ever
  armed may run at ANY later point, stopped or not.  Theorem `c18` holds for every event
  sequence, hence for every real schedule of Success/Fail/Proceed/expiry/cancel.
-/
import Bisquitt.Model.Tx
import Bisquitt.Gen.Facts

namespace Bisquitt.Tx
open Adv

theorem base_done_stable (b : Base) (h : b.done = true) (e : Err) :
    b.success = b ∧ b.fail e = b := by
  simp [Base.success, Base.fail, h]

theorem base_live_finish (b : Base) (h : b.done = false) (e : Err) :
    (b.success.done = true ∧ b.success.finallyRuns = b.finallyRuns + 1) ∧
    ((b.fail e).done = true ∧ (b.fail e).finallyRuns = b.finallyRuns + 1) := by
  simp [Base.success, Base.fail, h]

theorem step_done (a : Adv) (ev : AdvEv) (hd : a.base.done = true) : a.step ev = a := by
  have hsb : a.setBase a.base = a := by unfold setBase; simp [hd]
  cases ev with
  | success => show a.setBase a.base.success = a; rwa [(base_done_stable a.base hd .timeout).1]
  | fail e => show a.setBase (a.base.fail e) = a; rwa [(base_done_stable a.base hd e).2]
  | cancel => rfl
  | proceed => exact if_pos hd
  | timeoutCb g c => show (if a.armed.contains g then a.fire c else a) = a; rw [fire, if_pos hd, ite_self]

/-- what C18 demands of a state -/
structure Good (a : Adv) : Prop where
  finallyOnce : a.base.finallyRuns = if a.base.done then 1 else 0
  noCbAfterDone : a.cbAfterDone = 0
  noArmAfterDone : a.armedAfterDone = 0
  errStable : a.errChanged = false
  errRecorded : a.base.done = true → a.errAtDone = some a.base.err

theorem good_init (n : Nat) : Good { count := n } := by
  constructor <;> simp

/-- `Good` reads the base and its four bookkeeping fields only: not the retry counter, the armed
    generations or the number of callbacks -/
theorem Good.congr {a a' : Adv} (ha : Good a) (hb : a'.base = a.base) (h1 : a'.cbAfterDone = a.cbAfterDone)
    (h2 : a'.armedAfterDone = a.armedAfterDone) (h3 : a'.errChanged = a.errChanged)
    (h4 : a'.errAtDone = a.errAtDone) : Good a' :=
  ⟨hb ▸ ha.finallyOnce, h1 ▸ ha.noCbAfterDone, h2 ▸ ha.noArmAfterDone, h3 ▸ ha.errStable, hb ▸ h4 ▸ ha.errRecorded⟩

theorem setBase_good (a : Adv) (b : Base) (ha : Good a) (hnd : a.base.done = false)
    (hb : b.done = true ∧ b.finallyRuns = a.base.finallyRuns + 1) : Good (a.setBase b) := by
  unfold setBase
  simp only [hnd, hb.1, Bool.not_false, Bool.and_self, if_true]
  constructor <;> simp [hb.1, hb.2, ha.finallyOnce, hnd, ha.noCbAfterDone, ha.noArmAfterDone, ha.errStable]

theorem arm_good (a : Adv) (ha : Good a) (hnd : a.base.done = false) : Good a.arm := by
  unfold arm
  constructor <;> simp [hnd, ha.finallyOnce, ha.noCbAfterDone, ha.noArmAfterDone, ha.errStable]

theorem step_good (a : Adv) (ev : AdvEv) (ha : Good a) : Good (a.step ev) := by
  cases hd : a.base.done with
  | true => rwa [step_done a ev hd]
  | false =>
    cases ev with
    | success => exact setBase_good a _ ha hd (base_live_finish a.base hd .timeout).1
    | fail e => exact setBase_good a _ ha hd (base_live_finish a.base hd e).2
    | cancel => exact ha
    | proceed =>
      show Good (if a.base.done then a else ({ a with retryNum := 0 }).arm)
      rw [hd]
      exact arm_good _ (ha.congr rfl rfl rfl rfl rfl) hd
    | timeoutCb g cbErr =>
      show Good (if a.armed.contains g then a.fire cbErr else a)
      split
      · unfold fire
        simp only [hd, Bool.false_eq_true, if_false]
        split
        · exact setBase_good _ _ (ha.congr rfl rfl rfl rfl rfl) hd (base_live_finish a.base hd _).2
        · cases cbErr with
          | some n => exact setBase_good _ _ (ha.congr rfl rfl rfl rfl rfl) hd (base_live_finish a.base hd _).2
          | none => exact arm_good _ (ha.congr rfl rfl rfl rfl rfl) hd
      · exact ha

theorem run_good (evs : List AdvEv) : ∀ (a : Adv), Good a → Good (a.run evs) := by
  induction evs with
  | nil => exact fun a h => h
  | cons e es ih => exact fun a h => ih _ (step_good a e h)

/-- **C18.** For every interleaving of Success / Fail / Proceed / cancellation and timer
    callbacks of any generation: the completion callback has run exactly once iff the
    transaction is done (never twice), no retry callback started and no timer was armed after
    `done` closed, and `Err()` never differed from its value at completion. -/
theorem c18 (n : Nat) (evs : List AdvEv) : Good (Adv.run { count := n } evs) :=
  run_good evs _ (good_init n)

/-- `done` is monotone: once closed, no event changes the result -/
theorem c18_done_monotone (a : Adv) (ev : AdvEv) (hd : a.base.done = true) :
    (a.step ev).base = a.base := by
  rw [step_done a ev hd]

/-! ### lock discipline of the transaction types (regenerated from the source on every run):
    the exported state-changing methods and the timer callback hold the mutex for their
    whole body, which is what makes the method-atomic model the right granularity. -/
def lockedOnes (facts : List (String × String × Bool)) (names : List String) : Bool :=
  names.all fun n => facts.any fun (m, l, _) => m == n && l != "none"

theorem c18_lock_base : lockedOnes Gen.lockFacts_TransactionBase ["Success", "Fail", "Err"] = true := by decide +kernel
theorem c18_lock_retry :
    lockedOnes Gen.lockFacts_RetryTransaction ["Success", "Fail", "Proceed", "timeout"] = true := by decide +kernel

/-- non-vacuity / regression witness: the schedule that broke the unfixed code
    (`Proceed; Success; late callback of timer 0`) is an event sequence of this system and
    ends in a state with exactly one `finally` run and no callback after `done`. -/
example : let a := Adv.run { count := 3 } [.proceed, .success, .timeoutCb 0 none]
    a.base.done = true ∧ a.base.finallyRuns = 1 ∧ a.cbStarts = 0 ∧ a.base.err = none := by decide +kernel

/-- and a schedule in which callbacks do happen -/
example : let a := Adv.run { count := 1 } [.proceed, .timeoutCb 0 none, .timeoutCb 1 none]
    a.cbStarts = 1 ∧ a.base.err = some .noMoreRetries := by decide +kernel

end Bisquitt.Tx
