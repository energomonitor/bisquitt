/-
  C07 — No active session without a broker-accepted CONNECT.

  Theorems about the model's dispatchers, for ALL states and packets:
  * `c07_client_cannot_activate`: whatever datagram a client sends, a disconnected session stays
    disconnected — only the broker's answer can activate it;
  * `c07_activation`: a disconnected session becomes active only on the broker's CONNACK with
    return code 0 while the current connect exchange is awaiting it (the state the model enters
    exactly when it sends the MQTT CONNECT, `c07_connect_sent_*`);
  * `c07_illegal`: before that, a packet outside the connect exchange (and outside the QoS -1
    exception when authentication is disabled) ends the session and forwards nothing;
  * `c07_legal_when_disconnected`: the exact list of packets accepted while disconnected.
  * **all runs** — `c07_no_session_without_connack`: after ANY sequence of timed events that does not
    contain the broker's CONNACK 0 — client datagrams of every kind, malformed ones, other broker
    packets (a refusing CONNACK included), every timer on the way, broker EOF, shutdown — the session
    is `disconnected`: never active, asleep or awake (`c07_step_stays_disconnected` for one whole step).
  The monitor `Spec.c07` checks the whole-session statement on every implementation trace.
-/
import Bisquitt.Lemmas.GwFrame

namespace Bisquitt.Gw
open Bisquitt Gw

/-- the frame (`Lemmas/GwFrame.lean`) whose invariant is "the session is disconnected": it admits every client
    packet (none of them reaches a site that changes the state from `disconnected`) and refuses the one site that
    activates a session, the broker's CONNACK 0 for an exchange that waits for it -/
def discFrame (c : Cfg) : Frame := { cfg := c, St := (· = .disconnected) }

theorem discSites (c : Cfg) : (discFrame c).Sites :=
  Frame.sites_of (fun _ _ => trivial) (fun _ => trivial) (fun _ => trivial) fun _ _ => .free trivial
theorem discConn (c : Cfg) : (discFrame c).ConnSites := Frame.conn_of (fun _ _ => trivial) fun _ _ => .free trivial

theorem discAdmits (c : Cfg) (p : Pkt) : (discFrame c).Admits p where
  toAdmitsPkt := .of_true (fun _ _ => trivial) fun _ _ => .free trivial
  -- the invariant is "disconnected": the handlers that ask for another state are not reached
  connect := fun _ _ _ _ _ _ _ hs hw => by subst hs; exact hw.elim nofun nofun
  pingreq := fun _ _ => nofun
  leave := fun _ => rfl
  sleep := fun _ _ _ _ hs hn => absurd hs hn

theorem disc_of_fr {n : Nat} {g g' : Gw} (h : Fr (discFrame g.cfg) n g g') (hs : g.st = .disconnected) :
    g'.st = .disconnected :=
  (h ⟨rfl, hs, trivial, fun _ _ => trivial, fun _ _ => trivial⟩).1.st

/-- **C07.** No client datagram activates a disconnected session. -/
theorem c07_client_cannot_activate (g : Gw) (p : Pkt) (h : g.st = .disconnected) :
    (g.handleSn p).st = .disconnected :=
  disc_of_fr (Fr.handleSn (discSites _) (discConn _) g p (discAdmits _ p)) h

/-- **C07.** Only the broker's CONNACK 0, answering the CONNECT of the current exchange,
    activates a session. -/
theorem c07_activation (g : Gw) (p : MqPkt) (h : g.st = .disconnected) (ha : (g.handleMq p).st = .active) :
    p = .connack 0 ∧ ∃ t f, g.connTx = some (t, .awaitingConnack, f) := by
  -- otherwise the frame "the session is disconnected" admits the packet, and the session would still be disconnected
  refine Classical.byContradiction fun hn => ?_
  have hs := disc_of_fr (Fr.handleMq (discSites _) g p fun e hx => absurd ⟨e, hx⟩ hn) h
  rw [hs] at ha
  cases ha

/-- the exchange awaits the broker's CONNACK exactly from the moment the MQTT CONNECT is sent:
    without a will, right after authentication … -/
theorem c07_connect_sent_nowill (g : Gw) (t : Tx) (f : ConnFields) (hw : f.will = false) :
    (g.connAuthenticated t f).outs = (g.now, Out.mq f.toPkt) :: g.outs := by
  unfold connAuthenticated; rw [if_neg (by rw [hw]; nofun)]; rfl

/-- … with a will, on the WILLMSG -/
theorem c07_connect_sent_will (g : Gw) (t : Tx) (f : ConnFields) (m : Bytes) :
    (g.connWillMsg t .awaitingWillMsg f m).outs =
      (g.now, Out.mq (if f.will then { f with wm := m } else f).toPkt) :: g.outs := rfl

/-- **C07.** What a disconnected session accepts. -/
theorem c07_legal_when_disconnected (g : Gw) (p : Pkt) (h : g.st = .disconnected) (hl : g.packetLegal p = true) :
    (∃ a b c d e, p = .connect a b c d e) ∨ (∃ a b c, p = .auth a b c) ∨ (∃ a, p = .willmsg a) ∨
    (∃ a b c, p = .willtopic a b c) ∨ p = .disconnect 0 ∨
    (∃ dup r tit tid mid data, p = .publish dup 3 r tit tid mid data ∧ g.cfg.auth = false ∧
      (tit = Gen.TIT_SHORT ∨ tit = Gen.TIT_PREDEFINED)) := by
  unfold packetLegal at hl
  rw [if_neg (not_not_intro h)] at hl
  split at hl
  · exact .inl ⟨_, _, _, _, _, rfl⟩
  · exact .inr (.inl ⟨_, _, _, rfl⟩)
  · exact .inr (.inr (.inl ⟨_, rfl⟩))
  · exact .inr (.inr (.inr (.inl ⟨_, _, _, rfl⟩)))
  · exact .inr (.inr (.inr (.inr (.inl (congrArg Pkt.disconnect (beq_iff_eq.mp hl))))))
  · simp only [Bool.and_eq_true, Bool.not_eq_true', beq_iff_eq, Bool.or_eq_true] at hl
    obtain ⟨⟨ha, rfl⟩, ht⟩ := hl
    exact .inr (.inr (.inr (.inr (.inr ⟨_, _, _, _, _, _, rfl, ha, ht⟩))))
  · cases hl

/-- **C07.** Anything else ends the session and forwards nothing. -/
theorem c07_illegal (g : Gw) (p : Pkt) (hl : g.packetLegal p = false) :
    (g.handleSn p).outs = g.outs ∧ (g.handleSn p).alive = false := by
  unfold handleSn
  simp [hl, fail_alive]

/-- **C07 (one whole step, timers included).** -/
theorem c07_step_stays_disconnected (g : Gw) (t : Nat) (ev : Event) (h : g.st = .disconnected)
    (hev : ev ≠ .mq (.connack 0)) : (g.step t ev).st = .disconnected :=
  disc_of_fr (Fr.step (discSites _) (discConn _) g t ev
    (Frame.AdmitsEv.intro ev (fun e => absurd e hev) fun _ _ p _ _ => discAdmits _ p)) h

/-- **C07 (ALL runs).** A session that has never been sent CONNACK 0 by the broker is `disconnected`,
    whatever the client, the broker and the clock have done: no sequence of client datagrams (CONNECT,
    AUTH, will packets, anything else, malformed ones), broker packets other than CONNACK 0, timers,
    broker EOF or shutdown makes it active, asleep or awake. -/
theorem c07_no_session_without_connack (cfg : Cfg) (a b : UInt16) (evs : List (Nat × Event))
    (h : ∀ e ∈ evs, e.2 ≠ .mq (.connack 0)) : ((Gw.init cfg a b).run evs).st = .disconnected :=
  (Fr.run_init (discSites cfg) (discConn cfg) evs (fun e he =>
    Frame.AdmitsEv.intro e.2 (fun ec => absurd ec (h e he)) fun _ _ p _ _ => discAdmits cfg p) a b rfl trivial).1.st

end Bisquitt.Gw
