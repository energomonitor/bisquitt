/-
  C25 — No packet sequence crashes the gateway or the client.

  What a theorem can carry here, and what it cannot:
  * `c25_decode_total` (= C20): for ALL byte strings the decoder returns a packet or an error;
  * `c25_dispatch_total` (regenerated facts): the three dispatchers a peer's packets go through
    (`handleMqttSn`, `handleMqtt` of the gateway, `handlePacket` of the client) and the decoder's
    `NewPacketWithHeader` are type switches with a `default:` arm — no decodable packet falls through unhandled;
  * `c25_unchecked_assertions` (regenerated facts): the complete list of single-value type
    assertions `x.(T)` (the only form that panics on a mismatch) in gateway/, client/ and
    transactions/ is the reviewed list below — each entry asserts the type of a value the same
    function (or the transaction's constructor) has just stored; a new unchecked assertion breaks
    this obligation;
  * the models of the handlers are total functions, and they agree with the real handlers on
    every generated session (gateway and client suites).
  Nil dereferences, index errors and data races inside the real handlers are runtime behaviour no
  model exhibits: for those, every suite runs the real code and reports a panic, a fatal error or a
  hang as a failing input with the case that was running (MON process-crash / process-hang /
  panic) — that stream, over all suites, is what this check watches.
-/
import Bisquitt.Props.C20

namespace Bisquitt

/-- **C25 (decoding).** -/
theorem c25_decode_total (bs : Bytes) : decode bs ≠ .panic := decode_total bs

/-- **C25 (dispatch).** Every dispatcher has a default arm. -/
theorem c25_dispatch_total :
    Gen.handleMqttSnHasDefault = true ∧ Gen.handleMqttHasDefault = true ∧ Gen.client_handlePacketHasDefault = true ∧
    Gen.newPacketWithHeaderHasDefault = true := ⟨rfl, rfl, rfl, rfl⟩

/-- **C25 (type assertions that can panic).** The reviewed list. -/
theorem c25_unchecked_assertions :
    Gen.uncheckedAsserts_transactions = [] ∧
    Gen.uncheckedAsserts_gateway = [
      "broker_publish_qos1_transaction.go:Puback:*mqPkts.PubackPacket",       -- NewControlPacket(Puback)
      "broker_publish_qos2_transaction.go:Pubcomp:*mqPkts.PubcompPacket",     -- NewControlPacket(Pubcomp)
      "broker_publish_qos2_transaction.go:Pubrec:*mqPkts.PubrecPacket",       -- NewControlPacket(Pubrec)
      "broker_publish_transaction.go:regack:*snPkts1.Register",               -- Data in state awaitingRegack (checked first)
      "handler1.go:findRegisteredTopicID:string",                             -- registeredTopics values
      "handler1.go:findRegisteredTopicID:uint16",                             -- registeredTopics keys
      "handler1.go:handleClientPublish:*mqPkts.PublishPacket",                -- NewControlPacket(Publish)
      "handler1.go:handleClientPublish:string",                               -- registeredTopics value
      "handler1.go:handleMqttSn:*mqPkts.DisconnectPacket",
      "handler1.go:handleMqttSn:*mqPkts.PingreqPacket",
      "handler1.go:handleMqttSn:*mqPkts.PubrelPacket",
      "handler1.go:handleSubscribe:*mqPkts.SubscribePacket",
      "handler1.go:handleUnsubscribe:*mqPkts.UnsubscribePacket",
      "handler1.go:pingBroker:*mqPkts.PingreqPacket"] ∧
    Gen.uncheckedAsserts_client = [
      "disconnect_transaction.go:newDisconnectTransaction:pkts.Packet",       -- resend callbacks: Data is the packet passed to Proceed
      "ping_transaction.go:newPingTransaction:pkts.Packet",
      "publish_qos1_transaction.go:newPublishQOS1Transaction:pkts.Packet",
      "publish_qos2_transaction.go:newPublishQOS2Transaction:pkts.Packet",
      "register_transaction.go:Regack:*pkts1.Register",                       -- Data of a register transaction
      "register_transaction.go:newRegisterTransaction:pkts.Packet",
      "subscribe_transaction.go:Suback:*pkts1.Subscribe",                     -- Data of a subscribe transaction
      "subscribe_transaction.go:newSubscribeTransaction:pkts.Packet",
      "subscribe_transaction.go:newSubscribeTransaction:pkts.PacketWithDUP",
      "unsubscribe_transaction.go:Unsuback:*pkts1.Unsubscribe",
      "unsubscribe_transaction.go:newUnsubscribeTransaction:pkts.Packet"] := ⟨rfl, rfl, rfl⟩

end Bisquitt
