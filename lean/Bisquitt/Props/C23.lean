/-
  C23 — Every MQTT-SN datagram sent is well-formed (gateway half).

  `Spec.datagramOk b`: `b` is at most 8192 bytes, its length field equals its size, and it
  decodes as a packet of a type valid in the gateway → client direction.  Theorem `c23`: in
  EVERY run of the gateway model every datagram emitted satisfies it.  The proof combines the
  per-site permissions (`Sites`: every packet the model builds is `Legal` and of a valid type,
  including packets parked for retransmission and in the sleep buffer, and their DUP variants)
  with the codec theorems of C21 (round trip, length field, size bound) for Legal packets.
  The client-library half is decided by the client suite.
-/
import Bisquitt.Lemmas.GwRun
import Bisquitt.Spec.Gateway
import Bisquitt.Props.C21

namespace Bisquitt.Gw
open Bisquitt Gw Spec

/-- what the gateway may hand to `snSend`: a Legal packet of a gateway → client type -/
def SnOk (p : Pkt) : Prop := Legal p = true ∧ gwToClientTypes.contains p.typeCode = true

theorem datagramOk_of_snOk {p : Pkt} (h : SnOk p) : datagramOk (encode p) = true := by
  unfold datagramOk
  rw [c21_roundtrip h.1, show lengthFieldOf (encode p) = _ from c21_lengthField h.1]
  simp only [Bool.and_eq_true, decide_eq_true_eq, beq_self_eq_true, and_true]
  exact ⟨c21_size h.1, h.2⟩

theorem le3_of_le2 {q : UInt8} (h : q ≤ 2) : q ≤ 3 := UInt8.le_trans h (by decide)

/-- that the type is one the gateway sends to a client is a matter of evaluation -/
theorem SnOk.of {p : Pkt} (hl : Legal p = true)
    (ht : gwToClientTypes.contains p.typeCode = true := by dsimp only [Pkt.typeCode]; decide +kernel) : SnOk p := ⟨hl, ht⟩

theorem sites_c23 : Sites SnOk (fun _ => True) :=
  { Sites.top with
    connack := fun _ => .of rfl
    willtopicreq := .of rfl
    willmsgreq := .of rfl
    regack := fun _ _ _ => .of rfl
    suback := fun q _ _ _ hq => .of (decide_eq_true (le3_of_le2 hq))
    puback := fun _ _ _ => .of rfl
    pubrec := fun _ => .of rfl
    pubcomp := fun _ => .of rfl
    pubrel := fun _ => .of rfl
    unsuback := fun _ => .of rfl
    pingresp := .of rfl
    disconnect0 := .of rfl
    publish := fun _ q _ tit _ _ d hq ht hl =>
      .of (by simp only [Legal, le3_of_le2 hq, le3_of_le2 ht, hl, decide_true, Bool.and_self])
    register := fun _ _ n hne hl =>
      .of (by simp only [Legal, show 1 ≤ n.length from List.length_pos_iff.mpr hne, hl, decide_true, Bool.and_self])
    dup := fun p h => by unfold setDup; split <;> exact h }

/-- **C23 (gateway).** Every datagram in the output of every run is well-formed. -/
theorem c23 (cfg : Cfg) (idMin idMax : UInt16) (evs : List (Nat × Event)) (t : Nat) (b : Bytes)
    (h : (t, Out.sn b) ∈ ((Gw.init cfg idMin idMax).run evs).outs) : datagramOk b = true := by
  obtain ⟨p, hp, rfl⟩ := run_outs sites_c23 cfg idMin idMax evs _ h
  exact datagramOk_of_snOk hp

/-- non-vacuity: a QoS-2 PUBLISH with a 7168-byte payload (MaxPayloadLength, the largest the
    gateway relays) is permitted -/
example (d : Bytes) (h : d.length = 7168) : SnOk (.publish false 2 false 0 1 1 d) :=
  .of (by simp [Legal, h, maxPayload, Gen.MaxPayloadLength])

/-- **C23 (tie of the all-runs theorem).** The inventory of places where the gateway's code writes to the client
    link — every call of `snSend`, `snSendNow`, `ProceedSN`, `flushPktBuffer` in the package, regenerated from the
    source on every run — is the reviewed one the model's emission sites (`Sites`, `Lemmas/GwEmits.lean`) were
    written against.  A change that adds, removes or moves such a call breaks this obligation. -/
theorem c23_emission_sites :
    Gen.snSendSites_gateway =
     ["broker_publish_qos2_transaction.go:Pubrel:ProceedSN",
      "broker_publish_transaction.go:ProceedSN:snSend",
      "broker_publish_transaction.go:regack:ProceedSN",
      "broker_publish_transaction.go:resend:snSend",
      "client_publish_qos1_transaction.go:Puback:snSend",
      "connect_transaction.go:SendConnack:snSend",
      "connect_transaction.go:WillTopic:snSend",
      "connect_transaction.go:authenticated:snSend",
      "handler1.go:flushPktBuffer:snSend",
      "handler1.go:handleBrokerPublish:ProceedSN",
      "handler1.go:handleBrokerPublish:snSend",
      "handler1.go:handleConnect:flushPktBuffer",
      "handler1.go:handleConnect:snSend",
      "handler1.go:handleConnect:snSend",
      "handler1.go:handleConnect:snSend",
      "handler1.go:handleMqtt:snSend",
      "handler1.go:handleMqtt:snSend",
      "handler1.go:handleMqtt:snSend",
      "handler1.go:handleMqtt:snSend",
      "handler1.go:handleMqttSn:flushPktBuffer",
      "handler1.go:handleMqttSn:snSend",
      "handler1.go:handleMqttSn:snSend",
      "handler1.go:handleMqttSn:snSend",
      "handler1.go:handleMqttSn:snSend",
      "handler1.go:handleMqttSn:snSendNow",
      "handler1.go:handleSubscribe:snSend",
      "handler1.go:handleSubscribe:snSend",
      "handler1.go:run:snSend",
      "handler1.go:run:snSend",
      "handler1.go:snSend:snSendNow",
      "subscribe_transaction.go:Suback:snSend"] := rfl

end Bisquitt.Gw
