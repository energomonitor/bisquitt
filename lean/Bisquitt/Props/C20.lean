/-
  C20 — Decoding any datagram never crashes.

  `decode` is the model of `packets1.ReadPacket` in which every Go index / slice
  expression is an operation that yields `.panic` when its bounds check would fail.
  The theorem is for *all* byte strings (no length bound, no enumeration).
-/
import Bisquitt.Lemmas.WireReads

namespace Bisquitt
open Gen

/-- **C20.** `ReadPacket` never panics, whatever the datagram. -/
theorem decode_total (bs : Bytes) : decode bs ≠ .panic := (decode_reads bs).ne_panic

/-- the statement in the property's own terms: for every datagram of at most
    `MaxPacketLen` bytes decoding returns an error or a packet. -/
theorem c20 (bs : Bytes) (_h : bs.length ≤ Gen.MaxPacketLen) :
    decode bs = .err ∨ ∃ h p, decode bs = .ok (h, p) := by
  cases hd : decode bs with
  | panic => exact absurd hd (decode_total bs)
  | err => exact Or.inl rfl
  | ok hp => exact Or.inr ⟨hp.1, hp.2, rfl⟩

/-- non-vacuity: both outcomes occur. -/
example : decode [0x02, 0x17] = .ok ({ pktLength := 2, pktType := 0x17, long := false }, .pingresp) := by
  decide +kernel
example : decode [0x01, 0x05] = .err := by decide +kernel

end Bisquitt
