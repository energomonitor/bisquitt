/-
  C29 — ID sequence and transaction store behave atomically.

  Sequential part: for EVERY range min ≤ max (no enumeration), the j-th call of `Next`
  (0-based) returns min + (j mod n), n = max-min+1, and reports overflow iff j > 0 and
  j mod n = 0 (exactly the first value after a wrap); within a cycle the IDs are min..max,
  pairwise distinct; the store is two independent finite maps.
  Schedule part: the regenerated lock facts; that every run of lock-protected critical sections
  is a sequential run in lock-acquisition order is `sync.Mutex`'s semantics, trusted, not a Lean
  theorem.
-/
import Bisquitt.Model.IdSeq
import Bisquitt.Gen.Facts
import Bisquitt.Lemmas.Assoc

namespace Bisquitt
open IdSeq

theorem succ_mod_cases (k d : Nat) : (k + 1) % (d + 1) = if k % (d + 1) = d then 0 else k % (d + 1) + 1 := by
  rw [← Nat.mod_add_mod]
  split
  · rename_i h; rw [h, Nat.mod_self]
  · rename_i h
    exact Nat.mod_eq_of_lt (Nat.succ_lt_succ (Nat.lt_of_le_of_ne (Nat.le_of_lt_succ (Nat.mod_lt k d.succ_pos)) h))

/-- closed form of the state after `k` calls on a fresh sequence over [mn, mx] -/
def IdSeq.Inv (mn mx : UInt16) (k : Nat) (c : IdSeq) : Prop :=
  c.min = mn ∧ c.max = mx ∧
  c.next.toNat = mn.toNat + k % (mx.toNat - mn.toNat + 1) ∧
  c.overflow = decide (0 < k ∧ k % (mx.toNat - mn.toNat + 1) = 0)

theorem IdSeq.inv_new (mn mx : UInt16) : Inv mn mx 0 (IdSeq.new mn mx) := by
  simp [Inv, IdSeq.new]

/-- what the `k`-th call (0-based) returns -/
def IdSeq.expected (mn mx : UInt16) (k : Nat) : UInt16 × Bool :=
  (UInt16.ofNat (mn.toNat + k % (mx.toNat - mn.toNat + 1)),
   decide (0 < k ∧ k % (mx.toNat - mn.toNat + 1) = 0))

theorem IdSeq.step_spec (mn mx : UInt16) (hle : mn.toNat ≤ mx.toNat) (k : Nat) (c : IdSeq)
    (h : Inv mn mx k c) : c.step.1 = expected mn mx k ∧ Inv mn mx (k + 1) c.step.2 := by
  obtain ⟨hmin, hmax, hnext, hov⟩ := h
  have hmx : mn.toNat + (mx.toNat - mn.toNat) = mx.toNat := Nat.add_sub_cancel' hle
  unfold Inv expected
  rw [succ_mod_cases]
  -- with the range's width `d` and the position `r` in the cycle as variables the rest is about `r ≤ d`
  generalize mx.toNat - mn.toNat = d at *
  have hr := Nat.le_of_lt_succ (Nat.mod_lt k d.succ_pos)
  generalize k % (d + 1) = r at *
  have hid : (c.next, c.overflow) = (UInt16.ofNat (mn.toNat + r), decide (0 < k ∧ r = 0)) := by
    rw [← hnext, UInt16.ofNat_toNat, hov]
  -- the counter stands at `max` exactly at the last position of the cycle
  have hlast : c.next = c.max ↔ r = d := by rw [← UInt16.toNat_inj, hnext, hmax, ← hmx, Nat.add_left_cancel_iff]
  unfold step
  split
  · next hc => rw [if_pos (hlast.mp hc)]; exact ⟨hid, hmin, hmax, hmin ▸ rfl, by simp⟩
  · next hc =>
    have hne := mt hlast.mpr hc
    have hlt : c.next.toNat < mx.toNat := by
      rw [hnext, ← hmx]; exact Nat.add_lt_add_left (Nat.lt_of_le_of_ne hr hne) _
    rw [if_neg hne]
    refine ⟨hid, hmin, hmax, ?_, by simp⟩
    rw [toNat_succ_of_lt hlt, hnext, Nat.add_assoc]

/-- **C29 (sequential spec of the ID sequence).** For every range `mn ≤ mx`, starting after
    any number `k0` of earlier calls, the next `k` calls return `expected (k0+j)`. -/
theorem c29_idseq (mn mx : UInt16) (hle : mn.toNat ≤ mx.toNat) (k : Nat) :
    ∀ (k0 : Nat) (c : IdSeq), Inv mn mx k0 c →
      (steps k c).1 = (List.range k).map (fun j => expected mn mx (k0 + j)) ∧
      Inv mn mx (k0 + k) (steps k c).2 := by
  -- `List.range' k0 k` unfolds from the front like `steps` does
  suffices ∀ (k0 : Nat) (c : IdSeq), Inv mn mx k0 c →
      (steps k c).1 = (List.range' k0 k).map (expected mn mx) ∧ Inv mn mx (k0 + k) (steps k c).2 by
    simpa only [List.range'_eq_map_range, List.map_map, Function.comp_def] using this
  induction k with
  | zero => exact fun k0 c h => ⟨rfl, h⟩
  | succ k ih =>
    intro k0 c h
    obtain ⟨ho, hi⟩ := IdSeq.step_spec mn mx hle k0 c h
    obtain ⟨ho', hi'⟩ := ih (k0 + 1) c.step.2 hi
    exact ⟨by simp only [steps, List.range'_succ, List.map_cons, ho, ho'], by rwa [Nat.add_assoc, Nat.add_comm 1] at hi'⟩

theorem c29_idseq_fresh (mn mx : UInt16) (hle : mn.toNat ≤ mx.toNat) (k : Nat) :
    (steps k (IdSeq.new mn mx)).1 = (List.range k).map (fun j => expected mn mx j) := by
  simpa using (c29_idseq mn mx hle k 0 _ (IdSeq.inv_new mn mx)).1

/-- in the `q`-th cycle the `j`-th value is `min + j`: the cycle is min, min+1, …, max -/
theorem c29_cycle_value (mn mx : UInt16) (q j : Nat) (hj : j < mx.toNat - mn.toNat + 1) :
    (expected mn mx (q * (mx.toNat - mn.toNat + 1) + j)).1 = UInt16.ofNat (mn.toNat + j) := by
  simp only [expected, Nat.mul_add_mod_of_lt hj]

/-- overflow is reported exactly on the first value after a wrap -/
theorem c29_overflow (mn mx : UInt16) (q j : Nat) (hj : j < mx.toNat - mn.toNat + 1) :
    (expected mn mx (q * (mx.toNat - mn.toNat + 1) + j)).2 = decide (0 < q ∧ j = 0) := by
  simp only [expected, Nat.mul_add_mod_of_lt hj]
  -- at `j = 0` the index is `q * n`, which is positive iff `q` is
  rw [decide_eq_decide]
  constructor <;> rintro ⟨h, rfl⟩ <;> refine ⟨?_, rfl⟩
  · exact Nat.pos_of_ne_zero fun hq => by simp [hq] at h
  · exact Nat.mul_pos h hj

/-- no two calls of one cycle get the same ID -/
theorem c29_distinct (mn mx : UInt16) (hle : mn.toNat ≤ mx.toNat) (i j : Nat)
    (hi : i < mx.toNat - mn.toNat + 1) (hj : j < mx.toNat - mn.toNat + 1) (hij : i ≠ j) :
    UInt16.ofNat (mn.toNat + i) ≠ UInt16.ofNat (mn.toNat + j) := by
  -- inside the range nothing wraps around `UInt16`
  have hlt : ∀ i, i < mx.toNat - mn.toNat + 1 → (UInt16.ofNat (mn.toNat + i)).toNat = mn.toNat + i := fun i hi =>
    UInt16.toNat_ofNat_of_lt' (Nat.lt_of_le_of_lt (Nat.add_le_of_le_sub' hle (Nat.le_of_lt_succ hi)) mx.toNat_lt)
  intro h
  have e := congrArg UInt16.toNat h
  rw [hlt i hi, hlt j hj] at e
  exact hij (Nat.add_left_cancel e)

/-! ### the store: two independent finite maps -/

theorem store_get_store {τ} (s : Store τ) (a b : UInt16) (t : τ) :
    (s.store a t).get b = if b = a then some t else s.get b :=
  lookup_cons_ite a b t s.byId

theorem store_get_delete {τ} (s : Store τ) (a b : UInt16) :
    (s.delete a).get b = if b = a then none else s.get b :=
  lookup_filter_ne s.byId a b

theorem store_getByType_storeByType {τ} (s : Store τ) (a b : UInt8) (t : τ) :
    (s.storeByType a t).getByType b = if b = a then some t else s.getByType b :=
  lookup_cons_ite a b t s.byType

theorem store_getByType_deleteByType {τ} (s : Store τ) (a b : UInt8) :
    (s.deleteByType a).getByType b = if b = a then none else s.getByType b :=
  lookup_filter_ne s.byType a b

/-- the two key spaces never interfere -/
theorem store_independent {τ} (s : Store τ) (a : UInt16) (ty : UInt8) (t : τ) :
    (s.store a t).getByType ty = s.getByType ty ∧ (s.delete a).getByType ty = s.getByType ty ∧
    (s.storeByType ty t).get a = s.get a ∧ (s.deleteByType ty).get a = s.get a :=
  ⟨rfl, rfl, rfl, rfl⟩

/-! ### lock discipline (regenerated from the source on every run)
    every method of `IDSequence` and `TransactionStore` starts with `Lock(); defer Unlock()`
    (or the R-variants), and every method that writes takes the write lock. With that, any
    interleaving of calls is a sequence of method bodies (trusted: `sync.Mutex`). -/
def lockOk (facts : List (String × String × Bool)) : Bool :=
  !facts.isEmpty && facts.all (fun (_, l, w) => l != "none" && (!w || l == "Lock"))

theorem c29_lock_idsequence : lockOk Gen.lockFacts_IDSequence = true := by decide +kernel
theorem c29_lock_store : lockOk Gen.lockFacts_TransactionStore = true := by decide +kernel

/-- non-vacuity: a 3-ID range over two cycles -/
example : (steps 7 (IdSeq.new 5 7)).1 =
    [(5, false), (6, false), (7, false), (5, true), (6, false), (7, false), (5, true)] := by decide +kernel

end Bisquitt
