/-
  C11 — Sleeping clients get their traffic buffered and delivered on wake.

  Theorems about the model, for ALL states:
  * `c11_asleep_silent`: while the client is asleep `snSend` emits nothing and appends the packet
    to the buffer;
  * `c11_flush`: flushing while not asleep emits exactly the buffered packets, once each, in the
    original order, and empties the buffer;
  * `c11_wake`: PINGREQ from a sleeping client produces exactly the buffered packets in order,
    followed by PINGRESP, leaves the buffer empty and the client asleep again (so the statement
    applies to every sleep cycle);
  * `c11_repeated_sleep_request`: a repeated DISCONNECT(duration) of a sleeping client keeps the
    queue and is answered at once;
  * `c11_asleep_mq`, `c11_silent_on_client_packets`: no broker packet but a CONNACK and no client packet other than
    CONNECT, PINGREQ or DISCONNECT changes the state of a sleeping client.
  * **all runs** — `c11_asleep_runs_are_silent`: from ANY state in which the client is asleep, through
    ANY sequence of timed events none of which is the client's PINGREQ / CONNECT / DISCONNECT or the
    CONNACK of an unfinished connect exchange (client packets of every other kind, malformed datagrams,
    broker packets, broker EOF / garbage, gateway shutdown, any passage of time with every timer firing
    on the way), NO datagram is put on the wire and the client is still asleep: the frame `sleepFrame`
    (`Lemmas/GwAsleep.lean`) carried through every model function; `c11_silent_on_client_packets` (every
    client packet, all states) and `c11_step_quiet` (one whole step incl. timers, the end of the session and
    the instrumentation) are the same frame at one handler and at one step. With `c11_wake` (what a PINGREQ then delivers) this is
    the property for every sleep cycle; what is NOT proved is that the queue holds exactly the packets
    "it would have sent" (that is the monitor's and the correspondence's business).
  The monitor `Spec.c11` checks the whole-session statement on implementation traces.
-/
import Bisquitt.Lemmas.GwAsleep

namespace Bisquitt.Gw
open Bisquitt Gw

/-- **C11.** Nothing is sent to a sleeping client: the packet is queued. -/
theorem c11_asleep_silent (g : Gw) (p : Pkt) (tx : Option Nat) (h : g.st = .asleep) :
    (g.snSend p tx).outs = g.outs ∧ (g.snSend p tx).buffer = g.buffer ++ [{ pkt := p, tx := tx }] := by
  rw [snSend, if_pos h]; exact ⟨rfl, rfl⟩

/-- **C11.** A flush delivers every buffered packet once, in the original order (the log is
    newest-first), and empties the buffer. -/
theorem c11_flush (g : Gw) (h : g.st ≠ .asleep) :
    g.flushBuffer.outs = (g.buffer.reverse.map fun it => (g.now, Out.sn (encode it.pkt))) ++ g.outs ∧
    g.flushBuffer.buffer = [] := by
  rw [flushBuffer_awake g h]
  exact ⟨rfl, rfl⟩

/-- **C11.** Waking up: the buffered packets in order, then PINGRESP; asleep again afterwards. -/
theorem c11_wake (g : Gw) (h : g.st = .asleep) :
    g.handlePingreq.outs =
      (g.now, Out.sn (encode .pingresp)) :: ((g.buffer.reverse.map fun it => (g.now, Out.sn (encode it.pkt))) ++ g.outs) ∧
    g.handlePingreq.buffer = [] ∧ g.handlePingreq.st = .asleep := by
  rw [handlePingreq_asleep g h]
  exact ⟨rfl, rfl, rfl⟩

/-- **C11.** No broker packet (a CONNACK belongs to the connect exchange, C07/C09) wakes a sleeping client. -/
theorem c11_asleep_mq (g : Gw) (p : MqPkt) (h : g.st = .asleep) (hp : ∀ rc, p ≠ .connack rc) :
    (g.handleMq p).st = .asleep :=
  (asleep_of_fr (Fr.handleMq (sleepSites _) g p fun e _ => absurd e (hp 0)) h).1

/-- **C11.** A sleeping client that repeats its DISCONNECT(duration) — our reply got lost — is
    answered at once and keeps everything that has been queued for it. -/
theorem c11_repeated_sleep_request (g : Gw) (d : UInt16) (h : g.st = .asleep) :
    (g.handleSleep d).buffer = g.buffer ∧ (g.handleSleep d).st = .asleep ∧
    (g.handleSleep d).outs = (g.now, Out.sn (encode (.disconnect 0))) :: g.outs := by
  rw [handleSleep_eq]
  exact ⟨if_neg (not_not_intro h), rfl, rfl⟩

/-- non-vacuity: two queued packets come out oldest first, then PINGRESP -/
example : (((Gw.init ⟨false, none, none, 10, 2, []⟩ 1 10).setSt .asleep |>.snSend (.pubrec 1) |>.snSend (.pubrec 2)
      ).handlePingreq.outs.map (·.2)) =
    [Out.sn (encode .pingresp), Out.sn (encode (.pubrec 2)), Out.sn (encode (.pubrec 1))] := by decide +kernel

/-- **C11 (every client packet, every state).** While the client is asleep, whatever datagram it sends
    other than PINGREQ / CONNECT / DISCONNECT puts nothing on the wire towards it — every reply is
    queued — and leaves it asleep. -/
theorem c11_silent_on_client_packets (g : Gw) (p : Pkt) (h : g.st = .asleep) (hp : wakesOrAnswers p = false) :
    snOuts (g.handleSn p) = snOuts g ∧ (g.handleSn p).st = .asleep :=
  (asleep_of_fr (Fr.handleSn (sleepSites _) (sleepConn _) g p (sleepAdmits _ hp)) h).symm

/-- the client stays asleep and nothing is put on the wire towards it -/
def StaysQuiet (g g' : Gw) : Prop := g'.st = .asleep ∧ snOuts g' = snOuts g

/-- events that neither wake the client nor belong to its waking up -/
def quietEvent : Event → Bool
  | .sn bytes => match decode (bytes.take Gen.MaxPacketLen) with
    | .ok (_, p) => !wakesOrAnswers p
    | _ => true
  | .mq (.connack _) => false
  | _ => true

theorem sleepAdmitsEv (c : Cfg) {ev : Event} (hq : quietEvent ev = true) : (sleepFrame c).AdmitsEv ev :=
  Frame.AdmitsEv.intro ev (fun e => by subst e; cases hq) fun _ _ p e hdec =>
    sleepAdmits c (by subst e; simpa [quietEvent, hdec] using hq)

/-- **C11 (one whole step of the session, timers included).** -/
theorem c11_step_quiet (g : Gw) (t : Nat) (ev : Event) (h : g.st = .asleep) (hq : quietEvent ev = true) :
    StaysQuiet g (g.step t ev) :=
  asleep_of_fr (Fr.step (sleepSites _) (sleepConn _) g t ev (sleepAdmitsEv _ hq)) h

/-- **C11 (ALL runs).** From ANY state in which the client is asleep, through ANY sequence of timed
    events none of which is a PINGREQ / CONNECT / DISCONNECT of the client or the CONNACK of an
    unfinished connect exchange — client packets of every other kind, malformed datagrams, broker
    packets, broker EOF or garbage, gateway shutdown, any passage of time with every timer that fires
    on the way — the gateway puts NO datagram on the wire and the client is still treated as asleep. -/
theorem c11_asleep_runs_are_silent (g : Gw) (evs : List (Nat × Event)) (h : g.st = .asleep)
    (hq : ∀ e ∈ evs, quietEvent e.2 = true) : StaysQuiet g (g.run evs) :=
  asleep_of_fr (Fr.run (sleepSites _) (sleepConn _) evs (fun e he => sleepAdmitsEv _ (hq e he)) g) h

/-- non-vacuity of the hypothesis: a REGISTER of the client, a broker PUBLISH and the passing of time are events it
    admits; the client's PINGREQ is not -/
example : quietEvent (.sn (encode (.register 0 7 [0x61]))) = true ∧ quietEvent (.mq (.publish false 1 false 3 [0x61] [0x62])) = true ∧
    quietEvent .tick = true ∧ quietEvent (.sn (encode (.pingreq [0x63]))) = false := by decide +kernel

end Bisquitt.Gw
