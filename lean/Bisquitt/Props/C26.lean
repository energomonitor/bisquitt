/-
  C26 — Bisquitt client and gateway interoperate for any API usage.

  The full property quantifies over all scripts of API calls run by the two implementations
  together.  It is stated over the composed model (`Model/System.lean`: client model ‖ lossless
  link ‖ gateway model ‖ conforming broker) and the specification `Spec/System.lean`; the composed
  statement for ALL scripts (`C26Full` below) is NOT proved — what is proved, for all states of the
  two models, are the agreements between the two sides on which the exchanges rest (partial):

  * `c26_registration_id_stable`, `c26_partial_burst_same_id`: a topic name the gateway is
    registering with the client keeps its TopicID — every REGISTER of a burst of messages on a not
    yet registered topic carries the same ID (repaired defect);
  * `c26_client_register_new / _repeated / _conflict`: the client accepts a REGISTER of a new name
    and of a (name, ID) pair it has already, and refuses only a name it knows under another ID — so
    it accepts every REGISTER of such a burst (repaired defect);
  * `c26_subscribe_keeps_id`: a SUBSCRIBE to a plain name that is registered already is answered
    under that name's TopicID, no second ID is created (repaired defect);
  * `c26_register_gateway(_known)` with `c26_register_client`: after the REGISTER exchange the client
    knows the name under exactly the TopicID that denotes that name in the gateway;
  * `c26_subscribe_client`: the accepted SUBACK installs the handler and the name ↔ ID binding;
  * the topic tables of the two sides AGREE (`Agree`: every name the client has a TopicID for is what
    that ID denotes in the gateway): kept by each exchange (`c26_agree_register_new/_known`,
    `c26_agree_gateway_register`, `c26_agree_suback`), and — `reach_inv`,
    `c26_partial_publish_after_any_history` — by ANY history of REGISTER / SUBSCRIBE exchanges (the
    model's handlers are shown to be such steps: `step_handle*`, `step_client_*`) from the initial
    states; consequence (`c26_agree_publish`, with C01): a Publish on a registered name reaches the
    broker under exactly the name the application gave; `Inv2` / `reach2_inv` /
    `c26_partial_publish_after_any_history2` extend this to histories that also contain the
    gateway's OWN registrations for broker messages (choose the TopicID — `regIds` —, the client
    accepts the REGISTER, the gateway binds the ID at the REGACK, in any interleaving with everything
    else: `step2_handleBrokerPublish_new`, `step2_client_register(_repeated)`, `step2_bpRegack`), and
    `c26_partial_ids_mean_one_name`: after any such history no TopicID the client holds for a name is
    bound to another name in the gateway;
  * `c26_sleep_from_awake_silent` with `c11_wake`: after PINGRESP the gateway takes the client for
    asleep again, and the client's next Sleep() from `awake` sends nothing — the two sides agree on
    the state without a DISCONNECT;
  * `c26_spec_*`: sanity of the specification (every well-formed call is expected to succeed;
    a routed message with a matching subscription is expected at a handler), and
    `c26_spec_agrees_with_broker`: the specification expects a delivery exactly when the conforming
    broker sends the session a PUBLISH, with the same topic, payload and QoS.

  The composed model is executed beside the real client + real gateway + broker on generated
  scripts by the system suite; the specification is evaluated on the implementation's results.
-/
import Bisquitt.Props.C01
import Bisquitt.Props.C02
import Bisquitt.Props.C04
import Bisquitt.Lemmas.Tables
import Bisquitt.Lemmas.Client
import Bisquitt.Spec.System

namespace Bisquitt.Gw
open Bisquitt Gw

theorem startBrokerPub_topicTables (g : Gw) (qos : UInt8) (msgId : UInt16) (st0 : BpSt) (snp : Option Pkt) (st : BpSt)
    (first : Pkt) : (g.startBrokerPub qos msgId st0 snp st first).topicTables = g.topicTables := by
  unfold startBrokerPub
  rw [proceedSN_topicTables]
  rfl

theorem forwardSubscribe_topicTables (g : Gw) (dup : Bool) (q : UInt8) (mid : UInt16) (tp : Bytes) (tid : UInt16) :
    (g.forwardSubscribe dup q mid tp tid).topicTables = g.topicTables := by
  unfold forwardSubscribe
  split
  · exact tb_of_fr (Fr.fail g _)
  · unfold mqttSend emit storeById topicTables; rfl

section
variable {g g' : Gw} {topic name : Bytes} {id : UInt16}

theorem registrationTopicId_of_reserved (h : g.regIds.lookup topic = some id) :
    g.registrationTopicId topic = (some id, g) := by
  unfold registrationTopicId; rw [h]

theorem resolveTopic_registered (h : g.registered.lookup id = some name) :
    g.resolveTopic Gen.TIT_REGISTERED id = .ok name := by
  unfold resolveTopic
  simp [h]

end

/-- **C26.** The TopicID chosen for registering a topic name is kept for that name. -/
theorem c26_registration_id_stable (g g' : Gw) (topic : Bytes) (id : UInt16)
    (h : g.registrationTopicId topic = (some id, g')) : g'.registrationTopicId topic = (some id, g') :=
  registrationTopicId_of_reserved (registrationTopicId_reserved h)

/-- **C26 (partial: QoS 1/2, two messages).** A second broker message for a topic whose REGISTER is
    still waiting for its REGACK is registered under the same TopicID. -/
theorem c26_partial_burst_same_id (g g' : Gw) (q : UInt8) (msgId newId : UInt16) (snp : Option Pkt) (first : Pkt)
    (topic : Bytes) (ha : g.registrationTopicId topic = (some newId, g')) :
    ((g'.startBrokerPub q msgId .awaitingRegack snp .awaitingRegack first).registrationTopicId topic).1 = some newId := by
  have e := congrArg TopicTables.regIds (startBrokerPub_topicTables g' q msgId .awaitingRegack snp .awaitingRegack first)
  rw [registrationTopicId_of_reserved ((congrArg (List.lookup topic) e).trans (registrationTopicId_reserved ha))]

def exampleGw : Gw :=
  Gw.init { auth := false, user := none, pass := none, retryDelay := 500, retryCount := 3, predef := [] } 1 0xFFFE

/-- non-vacuity: a fresh session registers "a" under ID 1, again under ID 1, and "b" under ID 2 -/
example : (exampleGw.registrationTopicId [0x61]).1 = some 1 ∧
    ((exampleGw.registrationTopicId [0x61]).2.registrationTopicId [0x61]).1 = some 1 ∧
    ((exampleGw.registrationTopicId [0x61]).2.registrationTopicId [0x62]).1 = some 2 := by decide +kernel

/-- **C26.** SUBSCRIBE to a plain topic name that is registered already: answered under that ID,
    no new registration. -/
theorem c26_subscribe_keeps_id (g : Gw) (dup : Bool) (qos : UInt8) (mid tid id : UInt16) (name : Bytes)
    (hq : ¬ qos > 2) (hw : hasWildcard name = false) (hr : g.findRegisteredId name = some id) :
    g.handleSubscribe dup qos Gen.TIT_STRING mid tid name = g.forwardSubscribe dup qos mid name id := by
  unfold handleSubscribe
  simp [hq, hw, hr]

/-- **C26 (REGISTER exchange, gateway side).** A REGISTER of a new plain name is acknowledged with a
    TopicID that from then on denotes exactly that name in the gateway. -/
theorem c26_register_gateway (g g' : Gw) (mid id : UInt16) (name : Bytes) (hw : hasWildcard name = false)
    (hn : g.findRegisteredId name = none) (ha : g.newTopicId = (some id, g')) :
    g.handleRegister mid name = (g'.storeRegistered id name).snSend (.regack id mid Gen.RC_ACCEPTED) ∧
    (g.handleRegister mid name).registered.lookup id = some name := by
  have h1 : g.handleRegister mid name = (g'.storeRegistered id name).snSend (.regack id mid Gen.RC_ACCEPTED) := by
    unfold handleRegister; simp [hw, hn, ha]
  refine ⟨h1, ?_⟩
  rw [h1]
  exact (congrArg (fun v => v.registered.lookup id) (snSend_topicTables (g'.storeRegistered id name) _ _)).trans
    List.lookup_cons_self

/-- … and of a name registered already with the ID it has. -/
theorem c26_register_gateway_known (g : Gw) (mid id : UInt16) (name : Bytes) (hw : hasWildcard name = false)
    (hn : g.findRegisteredId name = some id) :
    g.handleRegister mid name = g.snSend (.regack id mid Gen.RC_ACCEPTED) := by
  unfold handleRegister
  simp [hw, hn]

end Bisquitt.Gw

namespace Bisquitt.Cl
open Bisquitt Cl

/-- what the gateway and the application see of a client state, and its two topic tables -/
structure View where
  registered : List (Bytes × UInt16)
  handlers : List (Bytes × Bytes)
  outs : List (Nat × Out)
  st : CState

def Cl.view (c : Cl) : View := { registered := c.registered, handlers := c.handlers, outs := c.outs, st := c.st }

theorem notifyState_view (d : Cl) (s : CState) : (d.notifyState s).view = d.view := by
  rw [notifyState_frame]; rfl

theorem finishTx_view (d : Cl) (id : Nat) (e : Err) : (d.finishTx id e).view = d.view := by
  rw [finishTx_frame]; rfl

theorem finishTx_registered (d : Cl) (id : Nat) (e : Err) : (d.finishTx id e).registered = d.registered :=
  congrArg View.registered (finishTx_view d id e)

/-- a state change of the client sends nothing by itself -/
theorem setState_view (c : Cl) (s : CState) : (c.setState s).view = { c.view with st := s } := by
  unfold setState
  by_cases h : c.st = s
  · rw [if_pos h]; subst h; rfl
  · -- the state is set and the keep-alive told (`c'`); its ping, if one is under way, is ended
    rw [if_neg h]
    dsimp only
    have hv := notifyState_view ({ c with st := s } : Cl) s
    generalize ({ c with st := s } : Cl).notifyState s = c' at hv ⊢
    split
    · split
      · split
        · rw [finishTx_view]; exact hv
        · exact hv
      · exact hv
    · exact hv

theorem startSleep_view (c : Cl) (id : Nat) : (c.startSleep id).view = { c.view with st := .asleep } := by
  unfold startSleep
  dsimp only
  have hv := setState_view c .asleep
  generalize c.setState .asleep = c' at hv ⊢
  split
  · split <;> exact hv
  · exact hv

/-- **C26.** `Sleep()` from the `awake` state sends nothing — no DISCONNECT —: the client just falls
    asleep again (the gateway took it for asleep right after its PINGRESP, `c11_wake`). -/
theorem c26_sleep_from_awake_silent (c : Cl) (call : String) (dur : Nat) (h : c.st = .awake) :
    (c.apiSleep call dur).outs = c.outs ∧ (c.apiSleep call dur).st = .asleep := by
  unfold apiSleep
  dsimp only [newTx, store]
  rw [if_neg (by rw [h]; nofun), if_pos h]
  exact ⟨congrArg View.outs (startSleep_view _ _), congrArg View.st (startSleep_view _ _)⟩

theorem sendOrFail_registered (c : Cl) (p : Pkt) : (c.sendOrFail p).registered = c.registered := by
  cases h : c.connClosed
  · rw [sendOrFail_open c p h]; rfl
  · rw [sendOrFail_closed c p h, rxFail_frame]

/-- **C26.** The client accepts a REGISTER of a name it does not know yet, and learns it. -/
theorem c26_client_register_new (c : Cl) (tid mid : UInt16) (name : Bytes) (h : c.registered.lookup name = none) :
    c.handlePacket (.register tid mid name) =
      ({ c with registered := (name, tid) :: c.registered } : Cl).sendOrFail (.regack tid mid Gen.RC_ACCEPTED) := by
  unfold handlePacket
  simp [h]

/-- **C26.** A REGISTER repeating a registration the client has already is acknowledged again. -/
theorem c26_client_register_repeated (c : Cl) (tid mid : UInt16) (name : Bytes) (h : c.registered.lookup name = some tid) :
    c.handlePacket (.register tid mid name) =
      ({ c with registered := (name, tid) :: c.registered } : Cl).sendOrFail (.regack tid mid Gen.RC_ACCEPTED) := by
  unfold handlePacket
  simp [h]

/-- **C26.** Only a name known under another TopicID is refused; the table is left alone. -/
theorem c26_client_register_conflict (c : Cl) (tid tid' mid : UInt16) (name : Bytes)
    (h : c.registered.lookup name = some tid') (hne : tid' ≠ tid) :
    c.handlePacket (.register tid mid name) = c.sendOrFail (.regack tid mid Gen.RC_INVALID_TOPIC_ID) := by
  unfold handlePacket
  simp [h, hne]

theorem register_registered {c : Cl} {name : Bytes} {tid : UInt16} (mid : UInt16)
    (h : c.registered.lookup name = none ∨ c.registered.lookup name = some tid) :
    (c.handlePacket (.register tid mid name)).registered = (name, tid) :: c.registered := by
  rcases h with h | h
  · rw [c26_client_register_new c tid mid name h, sendOrFail_registered]
  · rw [c26_client_register_repeated c tid mid name h, sendOrFail_registered]

/-- **C26 (REGISTER exchange, client side).** The accepted REGACK of its REGISTER makes the client
    know the name under the gateway's TopicID, and ends the exchange successfully. -/
theorem c26_register_client (c : Cl) (t : Tx) (id mid : UInt16) (name : Bytes)
    (hl : c.lookupById mid = some t) (hk : t.kind = .register name) :
    c.handlePacket (.regack id mid Gen.RC_ACCEPTED) =
      ({ c with registered := (name, id) :: c.registered } : Cl).finishTx t.id .ok ∧
    (c.handlePacket (.regack id mid Gen.RC_ACCEPTED)).registered.lookup name = some id := by
  have h1 : c.handlePacket (.regack id mid Gen.RC_ACCEPTED) =
      ({ c with registered := (name, id) :: c.registered } : Cl).finishTx t.id .ok := by
    unfold handlePacket; simp [hl, hk]
  refine ⟨h1, ?_⟩
  rw [h1, finishTx_registered]
  exact List.lookup_cons_self

theorem regack_registered {c : Cl} {t : Tx} {mid : UInt16} {name : Bytes} (id : UInt16)
    (hl : c.lookupById mid = some t) (hk : t.kind = .register name) :
    (c.handlePacket (.regack id mid Gen.RC_ACCEPTED)).registered = (name, id) :: c.registered := by
  rw [(c26_register_client c t id mid name hl hk).1, finishTx_registered]

theorem suback_tables {c : Cl} {t : Tx} {label name : Bytes} {tid mid stid : UInt16} {d : Bool} {q : UInt8} (fl : UInt8)
    (hl : c.lookupById mid = some t) (hk : t.kind = .subscribe label)
    (hd : t.data = some (.subscribe d q Gen.TIT_STRING mid stid name)) (hz : tid ≠ 0) :
    (c.handlePacket (.suback fl tid mid Gen.RC_ACCEPTED)).registered = (name, tid) :: c.registered ∧
    (c.handlePacket (.suback fl tid mid Gen.RC_ACCEPTED)).handlers = (name, label) :: c.handlers := by
  unfold handlePacket
  simp only [hl, hk, hd, ne_eq, not_true_eq_false, if_false, if_true, hz, not_false_eq_true]
  exact ⟨congrArg View.registered (finishTx_view _ _ _), congrArg View.handlers (finishTx_view _ _ _)⟩

/-- **C26 (SUBSCRIBE exchange, client side).** The accepted SUBACK of a subscription to a plain
    name installs the handler for that name and, when the gateway assigned a TopicID (C03:
    `c03_suback`, the ID it registered the name under — `c26_subscribe_keeps_id`), makes the
    client know the name under that ID. -/
theorem c26_subscribe_client (c : Cl) (t : Tx) (label name : Bytes) (fl : UInt8) (tid mid stid : UInt16) (d : Bool) (q : UInt8)
    (hl : c.lookupById mid = some t) (hk : t.kind = .subscribe label)
    (hd : t.data = some (.subscribe d q Gen.TIT_STRING mid stid name)) (hz : tid ≠ 0) :
    (c.handlePacket (.suback fl tid mid Gen.RC_ACCEPTED)).registered.lookup name = some tid ∧
    (c.handlePacket (.suback fl tid mid Gen.RC_ACCEPTED)).handlers.lookup name = some label := by
  rw [(suback_tables fl hl hk hd hz).1, (suback_tables fl hl hk hd hz).2]
  exact ⟨List.lookup_cons_self, List.lookup_cons_self⟩

theorem apiPublish_registered (c : Cl) (call : String) {name : Bytes} {id : UInt16} (q : UInt8) (r : Bool) (payload : Bytes)
    (hs : isShortTopic name = false) (hl : c.registered.lookup name = some id) :
    c.apiPublish call name q r payload = c.apiPublishRaw call Gen.TIT_REGISTERED id q r payload := by
  unfold apiPublish
  simp [hs, hl]

end Bisquitt.Cl

namespace Bisquitt.Sys
open Bisquitt

/-- observable results of a run of the composed model -/
def Sys.rets (s : Sys) : List (String × Cl.Err) :=
  s.obs.reverse.filterMap fun o => match o with | .ret c e => some (c, e) | _ => none

def Sys.delivered (s : Sys) (topic payload : Bytes) : Bool :=
  s.obs.any fun o => match o with | .handler _ t p _ => t == topic && p == payload | _ => false

/-- **C26 at full strength, over the composed model — NOT proved** (and false of the unchanged code
    for the recorded finding `message-not-delivered/long-sleep/new-topic`): every call returns what
    the specification expects, the broker has received exactly the expected publishes and holds the
    expected subscriptions, and every expected delivery has reached a handler. The system suite
    evaluates exactly this on the implementation's results and on the composed model, script by script. -/
def C26Full : Prop :=
  ∀ (ccfg : Cl.Cfg) (gcfg : Gw.Cfg) (ops : List Sys.Op),
    let s := Sys.run (Sys.init ccfg gcfg) ops
    let a := expect ccfg.cid ccfg.predef gcfg.retryDelay gcfg.retryCount ops
    s.rets = a.exp.rets ∧ s.br.recv.reverse = a.exp.recv ∧
    (∀ d ∈ a.exp.deliveries, s.delivered d.topic d.payload = true)

/-- **C26 (specification).** A message routed to a live session with a matching subscription is
    expected at a handler of one of the matching subscriptions, under its own topic and payload. -/
theorem c26_spec_routed_expected (a : Abs) (topic payload : Bytes) (qos : UInt8) (ctx : String)
    (hl : a.live = true) (hm : (a.subs.filter fun s => Broker.filterMatches s.1 topic) ≠ []) :
    ∃ d, (a.routed topic payload qos ctx).exp.deliveries = a.exp.deliveries ++ [d] ∧
      d.topic = topic ∧ d.payload = payload ∧
      d.labels = (a.subs.filter fun s => Broker.filterMatches s.1 topic).map (·.2.2) := by
  unfold Abs.routed
  simp only [hl, List.isEmpty_eq_false_iff.mpr hm, Bool.not_true, Bool.false_eq_true, if_false]
  exact ⟨_, rfl, rfl, rfl, rfl⟩

/-- **C26 (specification).** No subscription matches, or no session: nothing is expected. -/
theorem c26_spec_unrouted (a : Abs) (topic payload : Bytes) (qos : UInt8) (ctx : String)
    (h : a.live = false ∨ (a.subs.filter fun s => Broker.filterMatches s.1 topic) = []) :
    (a.routed topic payload qos ctx).exp = a.exp := by
  unfold Abs.routed
  rcases h with h | h <;> simp [h]

/-- **C26 (specification).** The calls that need no topic knowledge are expected to succeed, whatever
    came before. -/
theorem c26_spec_calls_ok (a : Abs) (c : String) (n : Bytes) (q : UInt8) (d : Nat) :
    (a.op (.api c .connect)).exp.rets = a.exp.rets ++ [(c, .ok)] ∧
    (a.op (.api c (.register n))).exp.rets = a.exp.rets ++ [(c, .ok)] ∧
    (a.op (.api c (.subscribe n q))).exp.rets = a.exp.rets ++ [(c, .ok)] ∧
    (a.op (.api c (.unsubscribe n))).exp.rets = a.exp.rets ++ [(c, .ok)] ∧
    (a.op (.api c .ping)).exp.rets = a.exp.rets ++ [(c, .ok)] ∧
    (a.op (.api c (.sleep d))).exp.rets = a.exp.rets ++ [(c, .ok)] ∧
    (a.op (.api c .disconnect)).exp.rets = a.exp.rets ++ [(c, .ok)] :=
  ⟨rfl, rfl, rfl, rfl, rfl, rfl, rfl⟩

/-- non-vacuity: a concrete specification state with a matching subscription -/
def exampleAbs : Abs :=
  { cid := [0x63], predef := [], rd := 500, rc := 3, live := true,
    subs := [([0x61, 0x2F, 0x23], 1, [0x61, 0x2F, 0x23])] }

example : exampleAbs.live = true ∧ (exampleAbs.subs.filter fun s => Broker.filterMatches s.1 [0x61, 0x2F, 0x6E]) ≠ [] := by
  decide +kernel

theorem matching_of_table (a : Abs) (b : Broker) (h : b.subs = a.subsTable) (topic : Bytes) :
    b.matching topic = (a.subs.filter fun s => Broker.filterMatches s.1 topic).map fun s => (s.1, s.2.1) := by
  unfold Broker.matching
  rw [h]
  exact List.filter_map

/-- **C26 (specification vs. broker).** When the broker's subscription table is the one the
    specification tracks, the specification expects a delivery exactly when the broker sends the
    session a PUBLISH, for the same topic and payload and at the same QoS. -/
theorem c26_spec_agrees_with_broker (a : Abs) (b : Broker) (h : b.subs = a.subsTable) (hl : a.live = true)
    (topic payload : Bytes) (qos : UInt8) (ctx : String) :
    ((b.route topic payload qos).2 = [] ∧ (a.routed topic payload qos ctx).exp = a.exp) ∨
    (∃ mid d, (b.route topic payload qos).2 = [.publish false d.qos false mid topic payload] ∧
      (a.routed topic payload qos ctx).exp.deliveries = a.exp.deliveries ++ [d] ∧ d.topic = topic ∧ d.payload = payload) := by
  unfold Broker.route Abs.routed
  rw [matching_of_table a b h]
  simp only [hl, List.foldl_map, Bool.not_true, Bool.false_eq_true, if_false]
  cases (a.subs.filter fun s => Broker.filterMatches s.1 topic) with
  | nil => exact .inl ⟨rfl, rfl⟩
  | cons x xs => exact .inr ⟨_, _, rfl, rfl, rfl, rfl⟩

/-! ## the allocator: what is used of C04 -/

theorem newTopicId_registered_of {g g1 : Gw.Gw} {id : UInt16} (h : g.newTopicId = (some id, g1)) :
    g1.registered = g.registered := by
  obtain ⟨_, _, _, _, rfl⟩ := Gw.newTopicId_some h; rfl

theorem newTopicId_regIds_of (g g1 : Gw.Gw) (id : UInt16) (h : g.newTopicId = (some id, g1)) : g1.regIds = g.regIds := by
  obtain ⟨_, _, _, _, rfl⟩ := Gw.newTopicId_some h; rfl

theorem alloc_fresh {g g1 : Gw.Gw} {id : UInt16} (ha : g.newTopicId = (some id, g1)) (hok : Gw.SeqOk g.idseq)
    (hov : g1.idseq.overflow = false) :
    g.idseq.next.toNat ≤ id.toNat ∧ id.toNat < g1.idseq.next.toNat ∧ Gw.SeqOk g1.idseq ∧
    g1.registered = g.registered ∧ g1.regIds = g.regIds :=
  have inc := Gw.c04_increasing g g1 id ha hok
  ⟨inc.2.1, inc.2.2.2.2.2.2 hov, inc.2.2.2.1, newTopicId_registered_of ha, newTopicId_regIds_of g g1 id ha⟩

/-- the two topic tables agree: every name the client has a TopicID for is what that ID denotes
    in the gateway -/
def Agree (c : Cl.Cl) (g : Gw.Gw) : Prop :=
  ∀ name id, c.registered.lookup name = some id → g.registered.lookup id = some name

section
variable {c c' : Cl.Cl} {g g' : Gw.Gw} {name : Bytes} {id : UInt16}

theorem Agree.learn (h : Agree c g) (hg : g.registered.lookup id = some name)
    (hc : c'.registered = (name, id) :: c.registered) : Agree c' g := by
  unfold Agree
  rw [hc]
  exact forall_lookup_cons h hg

/-- the gateway binds a TopicID the client has no use of -/
theorem Agree.bind (h : Agree c g) (hf : ∀ n, c.registered.lookup n ≠ some id)
    (hg : g'.registered = (id, name) :: g.registered) : Agree c g' := by
  intro n i hl
  rw [hg]
  exact lookup_cons_some.mpr (.inr ⟨fun e => hf n (e ▸ hl), h n i hl⟩)

theorem Agree.both (h : Agree c g) (hf : ∀ n, c.registered.lookup n ≠ some id)
    (hg : g'.registered = (id, name) :: g.registered) (hc : c'.registered = (name, id) :: c.registered) :
    Agree c' g' :=
  (h.bind hf hg).learn (by rw [hg]; exact List.lookup_cons_self) hc

end

/-- **C26 (publish on a registered name).** When the tables agree, the client publishes a registered
    name under a TopicID which the gateway resolves to that very name: the broker gets the PUBLISH
    under the name the application gave. -/
theorem c26_agree_publish (c : Cl.Cl) (g : Gw.Gw) (call : String) (name payload : Bytes) (id mid : UInt16) (q : UInt8) (r dup : Bool)
    (h : Agree c g) (hl : c.registered.lookup name = some id) (hs : isShortTopic name = false)
    (hne : name ≠ []) (hw : Gw.Gw.hasWildcard name = false) :
    c.apiPublish call name q r payload = c.apiPublishRaw call Gen.TIT_REGISTERED id q r payload ∧
    (g.handleClientPublish dup q r Gen.TIT_REGISTERED id mid payload).outs =
      (g.now, Gw.Out.mq (.publish dup (if q = 3 then 0 else q) r (if (if q = 3 then 0 else q) = 0 then 0 else mid) name payload))
        :: g.outs :=
  ⟨Cl.apiPublish_registered c call q r payload hs hl,
    Gw.c01_forward g dup q r _ id mid payload name (Gw.resolveTopic_registered (h name id hl)) hne hw⟩

/-- **C26 (REGISTER of a new name).** The exchange REGISTER → REGACK keeps the tables in agreement. -/
theorem c26_agree_register_new (c : Cl.Cl) (g g' : Gw.Gw) (t : Cl.Tx) (id mid : UInt16) (name : Bytes)
    (h : Agree c g) (hw : Gw.Gw.hasWildcard name = false) (hn : g.findRegisteredId name = none)
    (ha : g.newTopicId = (some id, g')) (hf : ∀ n, c.registered.lookup n ≠ some id)
    (hl : c.lookupById mid = some t) (hk : t.kind = .register name) :
    Agree (c.handlePacket (.regack id mid Gen.RC_ACCEPTED)) (g.handleRegister mid name) := by
  refine h.both hf ?_ (Cl.regack_registered id hl hk)
  rw [(Gw.c26_register_gateway g g' mid id name hw hn ha).1, ← newTopicId_registered_of ha]
  exact congrArg Gw.TopicTables.registered (Gw.snSend_topicTables _ _ _)

/-- **C26 (REGISTER of a name the gateway knows).** Same for the ID the name has already. -/
theorem c26_agree_register_known (c : Cl.Cl) (g : Gw.Gw) (t : Cl.Tx) (id mid : UInt16) (name : Bytes)
    (h : Agree c g) (hw : Gw.Gw.hasWildcard name = false) (hn : g.findRegisteredId name = some id)
    (hl : c.lookupById mid = some t) (hk : t.kind = .register name) :
    Agree (c.handlePacket (.regack id mid Gen.RC_ACCEPTED)) (g.handleRegister mid name) := by
  have eg : (g.handleRegister mid name).registered = g.registered := by
    rw [Gw.c26_register_gateway_known g mid id name hw hn]
    exact congrArg Gw.TopicTables.registered (Gw.snSend_topicTables _ _ _)
  unfold Agree
  rw [eg]
  exact h.learn (Gw.findRegisteredId_sound hn) (Cl.regack_registered id hl hk)

/-- **C26 (the gateway registers a name for a broker message).** After the client has accepted the
    REGISTER and the gateway has got the REGACK, the tables agree again. -/
theorem c26_agree_gateway_register (c : Cl.Cl) (g : Gw.Gw) (t : Gw.Tx) (q : UInt8) (id m mid : UInt16) (name : Bytes) (pub : Pkt)
    (h : Agree c g) (hn : c.registered.lookup name = none) (hf : ∀ n, c.registered.lookup n ≠ some id) :
    Agree (c.handlePacket (.register id mid name))
      (g.bpRegack t q .awaitingRegack (.sn (.register id m name)) (some pub) Gen.RC_ACCEPTED) := by
  rw [Gw.c02_after_regack]
  exact h.both hf (congrArg Gw.TopicTables.registered (Gw.proceedSN_topicTables _ _ _ _)) (Cl.register_registered mid (.inl hn))

/-- **C26 (SUBSCRIBE to a plain name).** The client learning the TopicID of the SUBACK keeps the
    agreement, when that ID denotes the name in the gateway (which registered it when it got the
    SUBSCRIBE: `c26_subscribe_keeps_id`, or a fresh one). -/
theorem c26_agree_suback (c : Cl.Cl) (g : Gw.Gw) (t : Cl.Tx) (label name : Bytes) (fl : UInt8) (tid mid stid : UInt16) (d : Bool) (q : UInt8)
    (h : Agree c g) (hg : g.registered.lookup tid = some name)
    (hl : c.lookupById mid = some t) (hk : t.kind = .subscribe label)
    (hd : t.data = some (.subscribe d q Gen.TIT_STRING mid stid name)) (hz : tid ≠ 0) :
    Agree (c.handlePacket (.suback fl tid mid Gen.RC_ACCEPTED)) g :=
  h.learn hg (Cl.suback_tables fl hl hk hd hz).1

/-! ### all histories of REGISTER / SUBSCRIBE exchanges: the tables stay in agreement

  `Inv` is `Tables c.registered (Means g.registered []) _` (`Lemmas/Tables.lean`) and `Inv2` below is
  `Tables c.registered (Means g.registered g.regIds) _`; a step lets the client learn a pair that is meant
  (`Tables.learn`), takes one pair under a fresh ID into use (`Tables.bind`, `Tables.choose`), or leaves what the IDs
  mean alone (`Means.bind_chosen`). -/

/-- the invariant carried through a history of exchanges -/
structure Inv (c : Cl.Cl) (g : Gw.Gw) : Prop where
  agree : Agree c g
  /-- every TopicID the client knows lies behind the gateway's allocation position -/
  cbelow : ∀ n i, c.registered.lookup n = some i → i.toNat < g.idseq.next.toNat
  gbelow : ∀ i n, g.registered.lookup i = some n → i.toNat < g.idseq.next.toNat
  seqok : Gw.SeqOk g.idseq
  /-- the sequence has not wrapped, or nothing is handed out any more -/
  live : g.idseq.overflow = false

theorem Inv.tables {c : Cl.Cl} {g : Gw.Gw} (h : Inv c g) :
    Tables c.registered (Means g.registered []) g.idseq.next.toNat where
  sub n i hl := .inl (h.agree n i hl)
  one _ _ _ m m' := Option.some.inj ((Means.nil.mp m).symm.trans (Means.nil.mp m'))
  below i n m := h.gbelow i n (Means.nil.mp m)

theorem Inv.of_tables {c : Cl.Cl} {g : Gw.Gw} (T : Tables c.registered (Means g.registered []) g.idseq.next.toNat)
    (hs : Gw.SeqOk g.idseq) (hl : g.idseq.overflow = false) : Inv c g where
  agree n i h := Means.nil.mp (T.sub n i h)
  cbelow n i h := T.below i n (T.sub n i h)
  gbelow i n h := T.below i n (.inl h)
  seqok := hs
  live := hl

/-- what a step does to the two tables and the allocator -/
inductive Step : Cl.Cl × Gw.Gw → Cl.Cl × Gw.Gw → Prop
  /-- the gateway allocates a fresh TopicID and binds it (REGISTER or SUBSCRIBE of a new plain name) -/
  | gwAlloc (c : Cl.Cl) (g g1 g' : Gw.Gw) (id : UInt16) (name : Bytes) :
      g.newTopicId = (some id, g1) → g1.idseq.overflow = false →
      g'.registered = (id, name) :: g1.registered → g'.idseq = g1.idseq → Step (c, g) (c, g')
  /-- the client learns from a REGACK / SUBACK a binding the gateway has -/
  | clLearn (c c' : Cl.Cl) (g : Gw.Gw) (id : UInt16) (name : Bytes) :
      g.registered.lookup id = some name → c'.registered = (name, id) :: c.registered → Step (c, g) (c', g)
  /-- anything that leaves the tables and the allocator alone -/
  | frame (c c' : Cl.Cl) (g g' : Gw.Gw) :
      c'.registered = c.registered → g'.registered = g.registered → g'.idseq = g.idseq → Step (c, g) (c', g')

theorem step_inv {c c' : Cl.Cl} {g g' : Gw.Gw} (h : Inv c g) (st : Step (c, g) (c', g')) : Inv c' g' := by
  have T := h.tables
  cases st with
  | gwAlloc _ _ g1 _ id name ha hov hr hs =>
    obtain ⟨hle, hlt, hok, hreg, _⟩ := alloc_fresh ha h.seqok hov
    rw [← hs] at hlt hok hov
    refine .of_tables ?_ hok hov
    rw [hr, hreg]
    exact T.bind hle hlt
  | clLearn _ _ _ id name hg hr => exact .of_tables (hr ▸ T.learn (.inl hg)) h.seqok h.live
  | frame _ _ _ _ hc hg hs =>
    refine .of_tables ?_ (hs ▸ h.seqok) (hs ▸ h.live)
    rw [hc, hg, hs]
    exact T

/-- histories from a given start -/
inductive Reach (s : Cl.Cl × Gw.Gw) : Cl.Cl × Gw.Gw → Prop
  | refl : Reach s s
  | step {t u : Cl.Cl × Gw.Gw} : Reach s t → Step t u → Reach s u

theorem reach_inv {s t : Cl.Cl × Gw.Gw} (r : Reach s t) (h : Inv s.1 s.2) : Inv t.1 t.2 := by
  induction r with
  | refl => exact h
  | step _ st ih => exact step_inv ih st

theorem inv_init (ccfg : Cl.Cfg) (gcfg : Gw.Cfg) (mn mx : UInt16) (hm : mn.toNat ≤ mx.toNat) :
    Inv ({ cfg := ccfg } : Cl.Cl) (Gw.Gw.init gcfg mn mx) :=
  .of_tables (Tables.nil _) (Gw.seqOk_new mn mx hm) rfl

/-- **C26 (partial: histories of REGISTER / SUBSCRIBE exchanges and of steps that leave the tables
    alone; the gateway's own registrations for broker messages are covered exchange by exchange,
    `c26_agree_gateway_register`).** After ANY such history from the initial states, a Publish on a
    name the client has a TopicID for reaches the broker under exactly that name. -/
theorem c26_partial_publish_after_any_history (ccfg : Cl.Cfg) (gcfg : Gw.Cfg) (c : Cl.Cl) (g : Gw.Gw)
    (r : Reach (({ cfg := ccfg } : Cl.Cl), Gw.Gw.init gcfg Gen.MinTopicAlias Gen.MaxTopicAlias) (c, g))
    (call : String) (name payload : Bytes) (id mid : UInt16) (q : UInt8) (rt dup : Bool)
    (hl : c.registered.lookup name = some id) (hs : isShortTopic name = false) (hne : name ≠ [])
    (hw : Gw.Gw.hasWildcard name = false) :
    c.apiPublish call name q rt payload = c.apiPublishRaw call Gen.TIT_REGISTERED id q rt payload ∧
    (g.handleClientPublish dup q rt Gen.TIT_REGISTERED id mid payload).outs =
      (g.now, Gw.Out.mq (.publish dup (if q = 3 then 0 else q) rt (if (if q = 3 then 0 else q) = 0 then 0 else mid) name payload))
        :: g.outs :=
  c26_agree_publish c g call name payload id mid q rt dup
    (reach_inv r (inv_init ccfg gcfg _ _ (by decide))).agree hl hs hne hw

/-! ### the handlers of the two models are such steps -/

/-- `g1`: what the allocation left; `g'`: any state with `g1`'s topic view and `(id, name)` bound -/
theorem Step.alloc {c : Cl.Cl} {g g1 g' : Gw.Gw} {id : UInt16} {name : Bytes} (ha : g.newTopicId = (some id, g1))
    (hov : g1.idseq.overflow = false) (e : g'.topicTables = (g1.storeRegistered id name).topicTables) : Step (c, g) (c, g') :=
  .gwAlloc c g g1 g' id name ha hov (congrArg (·.registered) e) (congrArg (·.idseq) e)

theorem Step.same {c : Cl.Cl} {g g' : Gw.Gw} (e : g'.topicTables = g.topicTables) : Step (c, g) (c, g') :=
  .frame c c g g' rfl (congrArg (·.registered) e) (congrArg (·.idseq) e)

/-- REGISTER of a new plain name at the gateway -/
theorem step_handleRegister_new (c : Cl.Cl) (g g1 : Gw.Gw) (mid id : UInt16) (name : Bytes)
    (hw : Gw.Gw.hasWildcard name = false) (hn : g.findRegisteredId name = none) (ha : g.newTopicId = (some id, g1))
    (hov : g1.idseq.overflow = false) : Step (c, g) (c, g.handleRegister mid name) := by
  rw [(Gw.c26_register_gateway g g1 mid id name hw hn ha).1]
  exact .alloc ha hov (Gw.snSend_topicTables _ _ _)

/-- REGISTER of a name the gateway knows: the tables stay -/
theorem step_handleRegister_known (c : Cl.Cl) (g : Gw.Gw) (mid id : UInt16) (name : Bytes)
    (hw : Gw.Gw.hasWildcard name = false) (hn : g.findRegisteredId name = some id) :
    Step (c, g) (c, g.handleRegister mid name) := by
  rw [Gw.c26_register_gateway_known g mid id name hw hn]
  exact .same (Gw.snSend_topicTables _ _ _)

/-- SUBSCRIBE to a new plain name at the gateway -/
theorem step_handleSubscribe_new (c : Cl.Cl) (g g1 : Gw.Gw) (dup : Bool) (qos : UInt8) (mid tid id : UInt16) (name : Bytes)
    (hq : ¬ qos > 2) (hw : Gw.Gw.hasWildcard name = false) (hn : g.findRegisteredId name = none)
    (ha : g.newTopicId = (some id, g1)) (hov : g1.idseq.overflow = false) :
    Step (c, g) (c, g.handleSubscribe dup qos Gen.TIT_STRING mid tid name) := by
  have he : g.handleSubscribe dup qos Gen.TIT_STRING mid tid name =
      (g1.storeRegistered id name).forwardSubscribe dup qos mid name id := by
    unfold Gw.Gw.handleSubscribe
    simp [hq, hw, hn, ha]
  rw [he]
  exact .alloc ha hov (Gw.forwardSubscribe_topicTables _ _ _ _ _ _)

/-- SUBSCRIBE to a registered plain name: the tables stay -/
theorem step_handleSubscribe_known (c : Cl.Cl) (g : Gw.Gw) (dup : Bool) (qos : UInt8) (mid tid id : UInt16) (name : Bytes)
    (hq : ¬ qos > 2) (hw : Gw.Gw.hasWildcard name = false) (hr : g.findRegisteredId name = some id) :
    Step (c, g) (c, g.handleSubscribe dup qos Gen.TIT_STRING mid tid name) := by
  rw [Gw.c26_subscribe_keeps_id g dup qos mid tid id name hq hw hr]
  exact .same (Gw.forwardSubscribe_topicTables _ _ _ _ _ _)

/-- the client gets the REGACK of its REGISTER -/
theorem step_client_regack (c : Cl.Cl) (g : Gw.Gw) (t : Cl.Tx) (id mid : UInt16) (name : Bytes)
    (hg : g.registered.lookup id = some name) (hl : c.lookupById mid = some t) (hk : t.kind = .register name) :
    Step (c, g) (c.handlePacket (.regack id mid Gen.RC_ACCEPTED), g) :=
  .clLearn c _ g id name hg (Cl.regack_registered id hl hk)

/-- the client gets the SUBACK of its subscription to a plain name -/
theorem step_client_suback (c : Cl.Cl) (g : Gw.Gw) (t : Cl.Tx) (label name : Bytes) (fl : UInt8) (tid mid stid : UInt16) (d : Bool) (q : UInt8)
    (hg : g.registered.lookup tid = some name) (hl : c.lookupById mid = some t) (hk : t.kind = .subscribe label)
    (hd : t.data = some (.subscribe d q Gen.TIT_STRING mid stid name)) (hz : tid ≠ 0) :
    Step (c, g) (c.handlePacket (.suback fl tid mid Gen.RC_ACCEPTED), g) :=
  .clLearn c _ g tid name hg (Cl.suback_tables fl hl hk hd hz).1

/-! ### … including the registrations the gateway itself starts for broker messages -/

/-- agreement of the tables up to registrations in progress (the gateway has chosen the TopicID
    of a name, `regIds`, and waits for the client's REGACK before binding it) -/
structure Inv2 (c : Cl.Cl) (g : Gw.Gw) : Prop where
  agree : ∀ n i, c.registered.lookup n = some i → g.registered.lookup i = some n ∨ g.regIds.lookup n = some i
  /-- a TopicID chosen for a name is unbound or bound to that name -/
  rcons : ∀ n i, g.regIds.lookup n = some i → g.registered.lookup i = none ∨ g.registered.lookup i = some n
  rinj : ∀ n n' i, g.regIds.lookup n = some i → g.regIds.lookup n' = some i → n = n'
  cbelow : ∀ n i, c.registered.lookup n = some i → i.toNat < g.idseq.next.toNat
  gbelow : ∀ i n, g.registered.lookup i = some n → i.toNat < g.idseq.next.toNat
  rbelow : ∀ n i, g.regIds.lookup n = some i → i.toNat < g.idseq.next.toNat
  seqok : Gw.SeqOk g.idseq
  live : g.idseq.overflow = false

theorem Inv2.tables {c : Cl.Cl} {g : Gw.Gw} (h : Inv2 c g) :
    Tables c.registered (Means g.registered g.regIds) g.idseq.next.toNat where
  sub := h.agree
  one := one_means_iff.mpr ⟨h.rcons, h.rinj⟩
  below i n m := m.elim (h.gbelow i n) (h.rbelow n i)

theorem Inv2.of_tables {c : Cl.Cl} {g : Gw.Gw}
    (T : Tables c.registered (Means g.registered g.regIds) g.idseq.next.toNat) (hs : Gw.SeqOk g.idseq)
    (hl : g.idseq.overflow = false) : Inv2 c g where
  agree := T.sub
  rcons := (one_means_iff.mp T.one).1
  rinj := (one_means_iff.mp T.one).2
  cbelow n i h := T.below i n (T.sub n i h)
  gbelow i n h := T.below i n (.inl h)
  rbelow n i h := T.below i n (.inr h)
  seqok := hs
  live := hl

inductive Step2 : Cl.Cl × Gw.Gw → Cl.Cl × Gw.Gw → Prop
  | gwAlloc (c : Cl.Cl) (g g1 g' : Gw.Gw) (id : UInt16) (name : Bytes) :
      g.newTopicId = (some id, g1) → g1.idseq.overflow = false →
      g'.registered = (id, name) :: g1.registered → g'.idseq = g1.idseq → g'.regIds = g1.regIds → Step2 (c, g) (c, g')
  | clLearn (c c' : Cl.Cl) (g : Gw.Gw) (id : UInt16) (name : Bytes) :
      g.registered.lookup id = some name → c'.registered = (name, id) :: c.registered → Step2 (c, g) (c', g)
  /-- a broker message on a name without TopicID: the gateway chooses one and sends REGISTER -/
  | gwReserve (c : Cl.Cl) (g g1 g' : Gw.Gw) (id : UInt16) (name : Bytes) :
      g.regIds.lookup name = none → g.newTopicId = (some id, g1) → g1.idseq.overflow = false →
      g'.regIds = (name, id) :: g1.regIds → g'.registered = g1.registered → g'.idseq = g1.idseq → Step2 (c, g) (c, g')
  /-- the client accepts that REGISTER -/
  | clLearnReserved (c c' : Cl.Cl) (g : Gw.Gw) (id : UInt16) (name : Bytes) :
      g.regIds.lookup name = some id → c'.registered = (name, id) :: c.registered → Step2 (c, g) (c', g)
  /-- the gateway gets the REGACK and binds the TopicID -/
  | gwCommit (c : Cl.Cl) (g g' : Gw.Gw) (id : UInt16) (name : Bytes) :
      g.regIds.lookup name = some id → g'.registered = (id, name) :: g.registered → g'.idseq = g.idseq →
      g'.regIds = g.regIds → Step2 (c, g) (c, g')
  | frame (c c' : Cl.Cl) (g g' : Gw.Gw) :
      c'.registered = c.registered → g'.registered = g.registered → g'.idseq = g.idseq → g'.regIds = g.regIds →
      Step2 (c, g) (c', g')

theorem step2_inv {c c' : Cl.Cl} {g g' : Gw.Gw} (h : Inv2 c g) (st : Step2 (c, g) (c', g')) : Inv2 c' g' := by
  have T := h.tables
  cases st with
  | gwAlloc _ _ g1 _ id name ha hov hr hs hri =>
    obtain ⟨hle, hlt, hok, hreg, hrid⟩ := alloc_fresh ha h.seqok hov
    rw [← hs] at hlt hok hov
    refine .of_tables ?_ hok hov
    rw [hr, hreg, hri, hrid]
    exact T.bind hle hlt
  | clLearn _ _ _ id name hg hr => exact .of_tables (hr ▸ T.learn (.inl hg)) h.seqok h.live
  | gwReserve _ _ g1 _ id name hnone ha hov hri hr hs =>
    obtain ⟨hle, hlt, hok, hreg, hrid⟩ := alloc_fresh ha h.seqok hov
    rw [← hs] at hlt hok hov
    refine .of_tables ?_ hok hov
    rw [hr, hreg, hri, hrid]
    exact T.choose hnone hle hlt
  | clLearnReserved _ _ _ id name hR hr => exact .of_tables (hr ▸ T.learn (.inr hR)) h.seqok h.live
  | gwCommit _ _ _ id name hR hr hs hri =>
    refine .of_tables ?_ (hs ▸ h.seqok) (hs ▸ h.live)
    rw [hr, hri, hs, Means.bind_chosen T.one hR]
    exact T
  | frame _ _ _ _ hc hg hs hri =>
    refine .of_tables ?_ (hs ▸ h.seqok) (hs ▸ h.live)
    rw [hc, hg, hri, hs]
    exact T

inductive Reach2 (s : Cl.Cl × Gw.Gw) : Cl.Cl × Gw.Gw → Prop
  | refl : Reach2 s s
  | step {t u : Cl.Cl × Gw.Gw} : Reach2 s t → Step2 t u → Reach2 s u

theorem reach2_inv {s t : Cl.Cl × Gw.Gw} (r : Reach2 s t) (h : Inv2 s.1 s.2) : Inv2 t.1 t.2 := by
  induction r with
  | refl => exact h
  | step _ st ih => exact step2_inv ih st

theorem inv2_init (ccfg : Cl.Cfg) (gcfg : Gw.Cfg) (mn mx : UInt16) (hm : mn.toNat ≤ mx.toNat) :
    Inv2 ({ cfg := ccfg } : Cl.Cl) (Gw.Gw.init gcfg mn mx) :=
  .of_tables (Tables.nil _) (Gw.seqOk_new mn mx hm) rfl

/-- **C26 (partial: histories of REGISTER / SUBSCRIBE exchanges, of the gateway's own registrations for
    broker messages — reserve, client accepts, commit, in any interleaving — and of steps that leave the
    tables alone).** After ANY such history from the initial states, a Publish on a name the client has a
    TopicID for reaches the broker under exactly that name — unless the gateway's registration of that very
    name is still in progress (the client has accepted the REGISTER, its REGACK has not been handled yet). -/
theorem c26_partial_publish_after_any_history2 (ccfg : Cl.Cfg) (gcfg : Gw.Cfg) (c : Cl.Cl) (g : Gw.Gw)
    (r : Reach2 (({ cfg := ccfg } : Cl.Cl), Gw.Gw.init gcfg Gen.MinTopicAlias Gen.MaxTopicAlias) (c, g))
    (call : String) (name payload : Bytes) (id mid : UInt16) (q : UInt8) (rt dup : Bool)
    (hl : c.registered.lookup name = some id) (hs : isShortTopic name = false) (hne : name ≠ [])
    (hw : Gw.Gw.hasWildcard name = false)
    (hdone : g.regIds.lookup name = some id → g.registered.lookup id = some name) :
    c.apiPublish call name q rt payload = c.apiPublishRaw call Gen.TIT_REGISTERED id q rt payload ∧
    (g.handleClientPublish dup q rt Gen.TIT_REGISTERED id mid payload).outs =
      (g.now, Gw.Out.mq (.publish dup (if q = 3 then 0 else q) rt (if (if q = 3 then 0 else q) = 0 then 0 else mid) name payload))
        :: g.outs :=
  have hg := ((reach2_inv r (inv2_init ccfg gcfg _ _ (by decide))).agree name id hl).elim (fun h => h) hdone
  ⟨Cl.apiPublish_registered c call q rt payload hs hl,
    Gw.c01_forward g dup q rt _ id mid payload name (Gw.resolveTopic_registered hg) hne hw⟩

/-- a TopicID the gateway ever sends the client for a name — in a REGACK, a SUBACK or a REGISTER of its
    own — is, after ANY such history, never bound to another name: what the client resolves by it
    (`Inv2.agree`, `Inv2.rcons`) is that name -/
theorem c26_partial_ids_mean_one_name (ccfg : Cl.Cfg) (gcfg : Gw.Cfg) (c : Cl.Cl) (g : Gw.Gw)
    (r : Reach2 (({ cfg := ccfg } : Cl.Cl), Gw.Gw.init gcfg Gen.MinTopicAlias Gen.MaxTopicAlias) (c, g))
    (name other : Bytes) (id : UInt16) (hl : c.registered.lookup name = some id)
    (hg : g.registered.lookup id = some other) : other = name :=
  have T := (reach2_inv r (inv2_init ccfg gcfg _ _ (by decide))).tables
  T.one id other name (.inl hg) (T.sub name id hl)

/-! ### the handlers of the two models are such steps, too -/

theorem step2_of_step {c c' : Cl.Cl} {g g' : Gw.Gw} (st : Step (c, g) (c', g')) (hr : g'.regIds = g.regIds)
    (hr1 : ∀ g1 : Gw.Gw, ∀ id, g.newTopicId = (some id, g1) → g1.regIds = g.regIds) : Step2 (c, g) (c', g') := by
  cases st with
  | gwAlloc _ _ g1 _ id name ha hov hreg hs => exact Step2.gwAlloc c g g1 g' id name ha hov hreg hs (by rw [hr, hr1 g1 id ha])
  | clLearn _ _ _ id name hg hc => exact Step2.clLearn c c' g id name hg hc
  | frame _ _ _ _ hc hg hs => exact Step2.frame c c' g g' hc hg hs hr

/-- a broker message (QoS 1 / 2) on a name without TopicID: reserve (or reuse the reserved ID) and REGISTER -/
theorem step2_handleBrokerPublish_new (c : Cl.Cl) (g g' : Gw.Gw) (dup retain : Bool) (q : UInt8) (mid newId : UInt16)
    (topic payload : Bytes)
    (hlen : payload.length ≤ Gen.MaxPayloadLength ∧ topic.length ≤ Gen.MaxPayloadLength) (hne : topic ≠ [])
    (hb : g.brokerTopicId topic = none) (hq : q = 1 ∨ q = 2) (ha : g.registrationTopicId topic = (some newId, g'))
    (hov : g'.idseq.overflow = false) :
    Step2 (c, g) (c, g.handleBrokerPublish dup q retain mid topic payload) := by
  rw [Gw.c02_register_first g g' dup retain q mid newId topic payload hlen hne hb hq ha]
  have e := Gw.startBrokerPub_topicTables g' q mid .awaitingRegack (some (.publish dup q retain 0 newId mid payload))
    .awaitingRegack (.register newId mid topic)
  rcases Gw.registrationTopicId_cases ha with ⟨_, _, _, rfl⟩ | ⟨hnone, ⟨_, g1, hn, e', rfl⟩ | ⟨_, e'⟩⟩
  · exact .frame c c g' _ rfl (congrArg (·.registered) e) (congrArg (·.idseq) e) (congrArg (·.regIds) e)
  · cases e'
    exact .gwReserve c g g1 _ newId topic hnone hn hov (congrArg (·.regIds) e) (congrArg (·.registered) e)
      (congrArg (·.idseq) e)
  · cases e'

/-- the client accepts a REGISTER of a name it does not know -/
theorem step2_client_register (c : Cl.Cl) (g : Gw.Gw) (id mid : UInt16) (name : Bytes)
    (hR : g.regIds.lookup name = some id) (hn : c.registered.lookup name = none) :
    Step2 (c, g) (c.handlePacket (.register id mid name), g) :=
  .clLearnReserved c _ g id name hR (Cl.register_registered mid (.inl hn))

/-- … or repeats a registration it has already (the other messages of a burst) -/
theorem step2_client_register_repeated (c : Cl.Cl) (g : Gw.Gw) (id mid : UInt16) (name : Bytes)
    (hR : g.regIds.lookup name = some id) (hn : c.registered.lookup name = some id) :
    Step2 (c, g) (c.handlePacket (.register id mid name), g) :=
  .clLearnReserved c _ g id name hR (Cl.register_registered mid (.inr hn))

/-- the gateway gets the accepted REGACK of its REGISTER -/
theorem step2_bpRegack (c : Cl.Cl) (g : Gw.Gw) (t : Gw.Tx) (q : UInt8) (id m : UInt16) (name : Bytes) (pub : Pkt)
    (hR : g.regIds.lookup name = some id) :
    Step2 (c, g) (c, g.bpRegack t q .awaitingRegack (.sn (.register id m name)) (some pub) Gen.RC_ACCEPTED) := by
  rw [Gw.c02_after_regack]
  have e := Gw.proceedSN_topicTables (g.storeRegistered id name) t.id
    (if q = 0 then Gw.BpSt.done else if q = 1 then .awaitingPuback else .awaitingPubrec) pub
  exact .gwCommit c g _ id name hR (congrArg (·.registered) e) (congrArg (·.idseq) e) (congrArg (·.regIds) e)

end Bisquitt.Sys
