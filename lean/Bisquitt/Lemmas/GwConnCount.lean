/-
  C09 and C10 (all runs), not by a `Frame` of `Lemmas/GwFrame.lean`: the invariant `I9` speaks of the list of
  transaction ids as a whole, the quantity bounded has a term in the state (`unsent`), and C10's part (`Kept`, `Rel10`)
  relates the exchange before a call to the exchange after it.  So `F9` is walked through the model's functions on
  its own, here, from the primitives up to `F9.run`.

  The number of MQTT CONNECT packets written never exceeds the number
  of CONNECT datagrams received.  Potential: `pot g` = MQTT CONNECTs written so far + connect exchanges
  in the store that have not sent theirs yet (`unsent`).  `F9 n g g'` says that a model function keeps
  the bookkeeping invariant `I9` (transaction ids unique and below `nextTx`; a broker-publish exchange
  never holds an MQTT CONNECT as its packet to resend) and raises the potential by at most `n`:
  `n = 1` for the handler of a CONNECT datagram, `n = 0` for everything else — and, for C10, that it leaves every
  connect exchange there, finished if it was, with its deadline where it was (`Kept`).
-/
import Bisquitt.Lemmas.GwAuth

namespace Bisquitt.Gw
open Bisquitt Gw

def unsentKind : TxKind → Bool
  | .connect .awaitingConnack _ => false
  | .connect _ _ => true
  | _ => false
def unsentTx (t : Tx) : Bool := unsentKind t.kind
/-- connect exchanges that have not written their MQTT CONNECT yet -/
def unsent (g : Gw) : Nat := (g.txs.filter unsentTx).length
def pot (g : Gw) : Nat := (mqConnects g).length + unsent g

def bpKindOk (k : TxKind) : Prop := ∀ q st p snp n, k = .brokerPub q st (.mq p) snp n → notConnect p = true

structure I9 (g : Gw) : Prop where
  nodup : (g.txs.map (·.id)).Nodup
  lt : ∀ t ∈ g.txs, t.id < g.nextTx
  bp : ∀ t ∈ g.txs, bpKindOk t.kind

theorem setTx_split {g : Gw} {t t' : Tx} (hn : (g.txs.map (·.id)).Nodup) (ht : t ∈ g.txs) (hid : t'.id = t.id) :
    ∃ l1 l2, g.txs = l1 ++ t :: l2 ∧ (g.setTx t').txs = l1 ++ t' :: l2 := by
  obtain ⟨l1, l2, e⟩ := List.append_of_mem ht
  refine ⟨l1, l2, e, ?_⟩
  rw [e, List.map_append, List.map_cons, List.nodup_append, List.nodup_cons] at hn
  -- the other exchanges have other ids and stay
  have keep : ∀ l : List Tx, (∀ x ∈ l, x.id ≠ t.id) → l.map (fun x => if x.id == t'.id then t' else x) = l := fun l h =>
    (List.map_congr_left fun x hx => if_neg (by rw [hid]; simpa using h x hx)).trans (List.map_id' l)
  show g.txs.map _ = _
  rw [e, List.map_append, List.map_cons, if_pos (by rw [hid]; exact beq_self_eq_true _),
    keep l1 fun x hx => hn.2.2 _ (List.mem_map_of_mem hx) _ List.mem_cons_self,
    keep l2 fun x hx e => hn.2.1.1 (e ▸ List.mem_map_of_mem hx)]

theorem setTx_ids (g : Gw) (t' : Tx) : (g.setTx t').txs.map (·.id) = g.txs.map (·.id) := by
  show (g.txs.map _).map _ = _
  rw [List.map_map]
  refine List.map_congr_left fun x _ => ?_
  show (if x.id == t'.id then t' else x).id = x.id
  split
  · exact (beq_iff_eq.mp ‹_›).symm
  · rfl

theorem pot_setTx {g : Gw} {t t' : Tx} (hn : (g.txs.map (·.id)).Nodup) (ht : t ∈ g.txs) (hid : t'.id = t.id) :
    pot (g.setTx t') + (if unsentTx t then 1 else 0) = pot g + (if unsentTx t' then 1 else 0) := by
  obtain ⟨l1, l2, e, e'⟩ := setTx_split hn ht hid
  unfold pot unsent mqConnects
  rw [setTx_outs, e, e']
  -- counted by `countP`, whose lemmas have the form `… + if p a then 1 else 0`
  simp only [← List.countP_eq_length_filter, List.countP_append, List.countP_cons]
  omega

theorem pot_emit_le (g : Gw) (o : Out) : pot (g.emit o) ≤ pot g + 1 := by
  unfold pot mqConnects
  show (List.filter isMqConnect (_ :: g.outs)).length + unsent g ≤ _
  simp only [← List.countP_eq_length_filter, List.countP_cons]
  split <;> omega

theorem newTx_txs (g : Gw) (k : TxKind) (key : TxKey) (tm : Option Nat) :
    (g.newTx k key tm).2.txs = g.txs ++ [{ id := g.nextTx, kind := k, key := key, timer := tm }] := rfl

theorem pot_newTx (g : Gw) (k : TxKind) (key : TxKey) (tm : Option Nat) :
    pot (g.newTx k key tm).2 = pot g + (if unsentKind k then 1 else 0) := by
  unfold pot unsent
  rw [newTx_txs, ← List.countP_eq_length_filter, ← List.countP_eq_length_filter, List.countP_append, List.countP_singleton,
    ← Nat.add_assoc]
  rfl

def isConnKind : TxKind → Bool | .connect .. => true | _ => false

/-- what replacing `t` by `t'` may do to a connect exchange: it stays one, stays finished, and while it is
    unfinished its deadline stays -/
def Rel10 (t t' : Tx) : Prop :=
  isConnKind t.kind = true →
    isConnKind t'.kind = true ∧ (t.done = true → t'.done = true) ∧ (t.done = false → t'.done = true ∨ t'.timer = t.timer)

theorem Rel10.refl (t : Tx) : Rel10 t t := fun hc => ⟨hc, id, fun _ => .inr rfl⟩
theorem Rel10.of_not_conn {t t' : Tx} (h : isConnKind t.kind = false) : Rel10 t t' := fun hc => by rw [h] at hc; cases hc
theorem Rel10.finish {t t' : Tx} (hk : t'.kind = t.kind) (hd' : t'.done = true) : Rel10 t t' :=
  fun hc => ⟨by rw [hk]; exact hc, fun _ => hd', fun _ => Or.inl hd'⟩
theorem Rel10.kind {t : Tx} {k : TxKind} (hk : isConnKind t.kind = true → isConnKind k = true) : Rel10 t { t with kind := k } :=
  fun hc => ⟨hk hc, fun h => h, fun _ => Or.inr rfl⟩

theorem Rel10.trans {a b c : Tx} (h1 : Rel10 a b) (h2 : Rel10 b c) : Rel10 a c := fun hc => by
  obtain ⟨hk1, hd1, ht1⟩ := h1 hc
  obtain ⟨hk2, hd2, ht2⟩ := h2 hk1
  refine ⟨hk2, fun h => hd2 (hd1 h), fun h => ?_⟩
  cases hb : b.done with
  | true => exact .inl (hd2 hb)
  | false =>
    rcases ht1 h with h3 | h3
    · rw [hb] at h3; cases h3
    · exact (ht2 hb).imp id (·.trans h3)

/-- C10's part of the frame: unless the session has ended (then all timers are stopped), every connect
    exchange of `g` is still there in `g'`, a finished one finished, an unfinished one finished or with the
    deadline it had — no function of the model re-arms or postpones the timer of a connect exchange -/
def Kept (g g' : Gw) : Prop :=
  (g.endedEmitted = true → g'.endedEmitted = true) ∧
  (g'.endedEmitted = true ∨ ∀ t ∈ g.txs, isConnKind t.kind = true →
    ∃ t' ∈ g'.txs, t'.id = t.id ∧ isConnKind t'.kind = true ∧ (t.done = true → t'.done = true) ∧
      (t.done = false → t'.done = true ∨ t'.timer = t.timer))

theorem Kept.of_forall {g g' : Gw} (he : g'.endedEmitted = g.endedEmitted)
    (h : ∀ t ∈ g.txs, ∃ t' ∈ g'.txs, t'.id = t.id ∧ Rel10 t t') : Kept g g' :=
  ⟨fun e => he ▸ e, .inr fun t ht hc => let ⟨t', ht', hid, hr⟩ := h t ht; ⟨t', ht', hid, hr hc⟩⟩

theorem Kept.of_eq {g g' : Gw} (ht : g'.txs = g.txs) (he : g'.endedEmitted = g.endedEmitted) : Kept g g' :=
  .of_forall he fun t hm => ⟨t, ht ▸ hm, rfl, .refl t⟩

theorem Kept.refl (g : Gw) : Kept g g := .of_eq rfl rfl

theorem Kept.trans {a b c : Gw} (h1 : Kept a b) (h2 : Kept b c) : Kept a c := by
  refine ⟨fun h => h2.1 (h1.1 h), ?_⟩
  rcases h2.2 with hc | k2
  · exact .inl hc
  rcases h1.2 with hb | k1
  · exact .inl (h2.1 hb)
  refine .inr fun t ht hk => ?_
  obtain ⟨t', ht', hid', r1⟩ := k1 t ht hk
  obtain ⟨t'', ht'', hid'', r2⟩ := k2 t' ht' r1.1
  -- `Kept` spells out the conclusion of `Rel10`
  exact ⟨t'', ht'', hid''.trans hid', Rel10.trans (fun _ => r1) (fun _ => r2) hk⟩

theorem Kept.setTx {g : Gw} (hI : I9 g) (t t' : Tx) (ht : t ∈ g.txs) (hid : t'.id = t.id) (hrel : Rel10 t t') :
    Kept g (g.setTx t') := by
  obtain ⟨l1, l2, e, e'⟩ := setTx_split hI.nodup ht hid
  refine .of_forall rfl fun x hx => ?_
  simp only [e, e', List.mem_append, List.mem_cons] at hx ⊢
  rcases hx with h | rfl | h
  · exact ⟨x, .inl h, rfl, .refl x⟩
  · exact ⟨t', .inr (.inl rfl), hid, hrel⟩
  · exact ⟨x, .inr (.inr h), rfl, .refl x⟩

theorem Kept.newTx (g : Gw) (k : TxKind) (key : TxKey) (tm : Option Nat) : Kept g (g.newTx k key tm).2 :=
  .of_forall rfl fun t ht => ⟨t, List.mem_append_left _ ht, rfl, .refl t⟩

theorem I9.of_eq {g : Gw} (h : I9 g) {g' : Gw} (ht : g'.txs = g.txs) (hn : g'.nextTx = g.nextTx) : I9 g' :=
  ⟨by rw [ht]; exact h.nodup, by rw [ht, hn]; exact h.lt, by rw [ht]; exact h.bp⟩

theorem I9.setTx {g : Gw} (hI : I9 g) (t t' : Tx) (ht : t ∈ g.txs) (hid : t'.id = t.id) (hbp : bpKindOk t'.kind) :
    I9 (g.setTx t') := by
  refine ⟨by rw [setTx_ids]; exact hI.nodup, fun x hx => ?_, fun x hx => ?_⟩
  · rcases mem_setTx hx with rfl | h
    · rw [hid]; exact hI.lt t ht
    · exact hI.lt x h
  · rcases mem_setTx hx with rfl | h
    · exact hbp
    · exact hI.bp x h

theorem I9.newTx {g : Gw} (hI : I9 g) (k : TxKind) (key : TxKey) (tm : Option Nat) (hbp : bpKindOk k) :
    I9 (g.newTx k key tm).2 := by
  refine ⟨?_,
    List.forall_mem_append.mpr ⟨fun x h => Nat.lt_succ_of_lt (hI.lt x h), List.forall_mem_singleton.mpr (Nat.lt_succ_self _)⟩,
    List.forall_mem_append.mpr ⟨hI.bp, List.forall_mem_singleton.mpr hbp⟩⟩
  rw [newTx_txs, List.map_append]
  refine List.nodup_append.mpr ⟨hI.nodup, List.pairwise_singleton _ _, fun a ha b hb => ?_⟩
  obtain ⟨y, hy, rfl⟩ := List.mem_map.mp ha
  rw [List.mem_singleton.mp hb]
  exact Nat.ne_of_lt (hI.lt y hy)

structure F9 (n : Nat) (g g' : Gw) : Prop where
  keep : I9 g → I9 g' ∧ pot g' ≤ pot g + n ∧ Kept g g'

theorem F9.refl (g : Gw) : F9 0 g g := ⟨fun h => ⟨h, Nat.le_refl _, Kept.refl g⟩⟩
theorem F9.inv {n : Nat} {g g' : Gw} (h : F9 n g g') (hI : I9 g) : I9 g' := (h.keep hI).1
theorem F9.le {n : Nat} {g g' : Gw} (h : F9 n g g') (hI : I9 g) : pot g' ≤ pot g + n := (h.keep hI).2.1
theorem F9.kept {n : Nat} {g g' : Gw} (h : F9 n g g') (hI : I9 g) : Kept g g' := (h.keep hI).2.2
theorem F9.comp {m n : Nat} {a b c : Gw} (h1 : F9 m a b) (h2 : F9 n b c) : F9 (m + n) a c :=
  ⟨fun hI => ⟨h2.inv (h1.inv hI),
    by rw [← Nat.add_assoc]; exact Nat.le_trans (h2.le (h1.inv hI)) (Nat.add_le_add_right (h1.le hI) n),
    (h1.kept hI).trans (h2.kept (h1.inv hI))⟩⟩
theorem F9.mono {n m : Nat} {g g' : Gw} (h : F9 n g g') (hnm : n ≤ m) : F9 m g g' :=
  ⟨fun hI => ⟨h.inv hI, Nat.le_trans (h.le hI) (Nat.add_le_add_left hnm _), h.kept hI⟩⟩
theorem F9.zero {n : Nat} {g g' : Gw} (h : F9 0 g g') : F9 n g g' := h.mono (Nat.zero_le n)
theorem F9.trans {a b c : Gw} (h1 : F9 0 a b) (h2 : F9 0 b c) : F9 0 a c := h1.comp h2
theorem F9.before {n : Nat} {a b c : Gw} (h1 : F9 0 a b) (h2 : F9 n b c) : F9 n a c :=
  (h1.comp h2).mono (Nat.le_of_eq (Nat.zero_add n))
theorem F9.after {n : Nat} {a b c : Gw} (h1 : F9 n a b) (h2 : F9 0 b c) : F9 n a c := h1.comp h2
theorem F9.of_inv {n : Nat} {g g' : Gw} (h : I9 g → F9 n g g') : F9 n g g' := ⟨fun hI => (h hI).keep hI⟩

/-- as `Fr.ite` -/
theorem F9.ite {n : Nat} {g a b : Gw} {c : Prop} [Decidable c] (ha : c → F9 n g a) (hb : ¬ c → F9 n g b) :
    F9 n g (if c then a else b) := by
  split
  · exact ha ‹_›
  · exact hb ‹_›

theorem F9.of_outs {g g' : Gw} {new : List (Nat × Out)} (ho : g'.outs = new ++ g.outs) (hc : ∀ o ∈ new, isMqConnect o = false)
    (ht : g'.txs = g.txs) (hn : g'.nextTx = g.nextTx) (he : g'.endedEmitted = g.endedEmitted) : F9 0 g g' := by
  refine ⟨fun hI => ⟨hI.of_eq ht hn, Nat.le_of_eq ?_, Kept.of_eq ht he⟩⟩
  unfold pot mqConnects unsent
  rw [ho, ht, List.filter_append, List.filter_eq_nil_iff.mpr fun o h => by rw [hc o h]; exact Bool.false_ne_true]
  rfl

theorem F9.of_eq {g g' : Gw} (ho : g'.outs = g.outs) (ht : g'.txs = g.txs) (hn : g'.nextTx = g.nextTx)
    (he : g'.endedEmitted = g.endedEmitted) : F9 0 g g' :=
  F9.of_outs (new := []) ho (fun _ h => nomatch h) ht hn he

theorem F9.emit (g : Gw) (o : Out) (h : isMqConnect (g.now, o) = false) : F9 0 g (g.emit o) :=
  F9.of_outs (new := [(g.now, o)]) rfl (fun _ hx => by rw [List.mem_singleton.mp hx]; exact h) rfl rfl rfl
theorem F9.snSend (g : Gw) (p : Pkt) (tx : Option Nat) : F9 0 g (g.snSend p tx) :=
  F9.ite (fun _ => F9.of_eq rfl rfl rfl rfl) fun _ => F9.emit g _ rfl
theorem F9.snSendNow (g : Gw) (p : Pkt) : F9 0 g (g.snSendNow p) := F9.emit g _ rfl
theorem F9.mqttSend (g : Gw) (p : MqPkt) (h : notConnect p = true) : F9 0 g (g.mqttSend p) := by
  refine F9.emit g _ ?_
  cases p with
  | connect => cases h
  | _ => rfl

theorem F9.setTx (g : Gw) (t t' : Tx) (ht : t ∈ g.txs) (hid : t'.id = t.id)
    (hk : unsentTx t' = true → unsentTx t = true) (hbp : bpKindOk t.kind → bpKindOk t'.kind) (hrel : Rel10 t t') :
    F9 0 g (g.setTx t') := by
  refine ⟨fun hI => ⟨hI.setTx t t' ht hid (hbp (hI.bp t ht)), ?_, Kept.setTx hI t t' ht hid hrel⟩⟩
  have hp := pot_setTx hI.nodup ht hid
  have : (if unsentTx t' then 1 else 0) ≤ (if unsentTx t then 1 else 0) := by
    split
    · rw [if_pos (hk ‹_›)]; exact Nat.le_refl 1
    · exact Nat.zero_le _
  omega

theorem bp_ok (q : UInt8) (st : BpSt) (d : BpData) (snp : Option Pkt) (n : Nat)
    (hd : ∀ p, d = .mq p → notConnect p = true) : bpKindOk (.brokerPub q st d snp n) := (ok8_bp hd).2
theorem connect_bp (st : ConnSt) (f : ConnFields) : bpKindOk (.connect st f) := fun _ _ _ _ _ e => nomatch e
theorem subscribe_bp (tid : UInt16) : bpKindOk (.subscribe tid) := fun _ _ _ _ _ e => nomatch e
theorem clientPub1_bp (tid : UInt16) : bpKindOk (.clientPub1 tid) := fun _ _ _ _ _ e => nomatch e

theorem F9.setConn (g : Gw) (t : Tx) {st : ConnSt} {f : ConnFields} (ht : t ∈ g.txs) (hu : unsentTx t = true) :
    F9 0 g (g.setTx { t with kind := .connect st f }) :=
  F9.setTx g t _ ht rfl (fun _ => hu) (fun _ => connect_bp st f) (Rel10.kind fun _ => rfl)
theorem F9.setBp (g : Gw) (t : Tx) {q : UInt8} {st : BpSt} {d : BpData} {snp : Option Pkt} {n : Nat} {tm : Option Nat}
    (ht : t ∈ g.txs) (hd : ∀ p, d = .mq p → notConnect p = true) (hn : isConnKind t.kind = false) :
    F9 0 g (g.setTx { t with kind := .brokerPub q st d snp n, timer := tm }) :=
  F9.setTx g t _ ht rfl (fun h => nomatch h) (fun _ => bp_ok q st d snp n hd) (Rel10.of_not_conn hn)
theorem F9.setTimer (g : Gw) (t : Tx) (tm : Option Nat) (ht : t ∈ g.txs) (h : isConnKind t.kind = false ∨ t.done = true) :
    F9 0 g (g.setTx { t with timer := tm }) :=
  F9.setTx g t { t with timer := tm } ht rfl (fun h => h) (fun h => h) (h.elim Rel10.of_not_conn fun hd => Rel10.finish rfl hd)

/-- an exchange stops being "unsent" and a packet is written: one exchange fewer is unsent, at most one CONNECT
    more is in the log -/
theorem F9.setTx_send (g : Gw) (t t' : Tx) (p : MqPkt) (ht : t ∈ g.txs) (hid : t'.id = t.id) (hu : unsentTx t = true)
    (hu' : unsentTx t' = false) (hbp : bpKindOk t'.kind) (hrel : Rel10 t t') : F9 0 g ((g.setTx t').mqttSend p) := by
  refine ⟨fun hI => ⟨(hI.setTx t t' ht hid hbp).of_eq rfl rfl, ?_, (Kept.setTx hI t t' ht hid hrel).trans (Kept.of_eq rfl rfl)⟩⟩
  have hp := pot_setTx hI.nodup ht hid
  rw [hu, hu', if_pos rfl, if_neg Bool.false_ne_true] at hp
  have hm : pot ((g.setTx t').mqttSend p) ≤ pot (g.setTx t') + 1 := pot_emit_le _ _
  omega

theorem F9.sendConnect (g : Gw) (t : Tx) (f : ConnFields) (p : MqPkt) (ht : t ∈ g.txs) (hu : unsentTx t = true) :
    F9 0 g ((g.setTx { t with kind := .connect .awaitingConnack f }).mqttSend p) :=
  F9.setTx_send g t _ p ht rfl hu rfl (connect_bp _ f) (Rel10.kind fun _ => rfl)

theorem F9.runFinally (g : Gw) (t : Tx) : F9 0 g (g.runFinally t) := by
  unfold Gw.runFinally
  split
  · exact F9.ite (fun _ => F9.of_eq rfl rfl rfl rfl) fun _ => F9.refl g
  · exact F9.ite (fun _ => F9.of_eq rfl rfl rfl rfl) fun _ => F9.refl g
  · exact F9.of_eq rfl rfl rfl rfl

theorem bpKindOk_of_mem {g : Gw} (hI : I9 g) {t : Tx} (ht : t ∈ g.txs) : bpKindOk t.kind := hI.bp t ht

theorem F9.finishTx (g : Gw) (id : Nat) : F9 0 g (g.finishTx id) := by
  unfold Gw.finishTx
  split
  · rename_i t ht
    exact F9.ite (fun _ => F9.refl g) fun _ =>
      (F9.setTx g t { t with done := true, timer := none } (getTx_mem ht) rfl (fun h => h) (fun h => h)
        (Rel10.finish rfl rfl)).trans (F9.runFinally _ t)
  · exact F9.refl g

theorem F9.fail (g : Gw) (c : EndCls) : F9 0 g (g.fail c) := by
  unfold Gw.fail; split <;> exact F9.of_eq rfl rfl rfl rfl

theorem F9.newTx (g : Gw) (k : TxKind) (key : TxKey) (tm : Option Nat) (hbp : bpKindOk k) :
    F9 (if unsentKind k then 1 else 0) g (g.newTx k key tm).2 :=
  ⟨fun hI => ⟨hI.newTx k key tm hbp, Nat.le_of_eq (pot_newTx g k key tm), Kept.newTx g k key tm⟩⟩

theorem F9.storeById (g : Gw) (m : UInt16) (id : Nat) : F9 0 g (g.storeById m id) := F9.of_eq rfl rfl rfl rfl
theorem F9.storeByIdB (g : Gw) (m : UInt16) (id : Nat) : F9 0 g (g.storeByIdB m id) := F9.of_eq rfl rfl rfl rfl
theorem F9.storeRegistered (g : Gw) (id : UInt16) (n : Bytes) : F9 0 g (g.storeRegistered id n) := F9.of_eq rfl rfl rfl rfl
theorem F9.setConnectTx (g : Gw) (id : Nat) : F9 0 g (g.setConnectTx id) := F9.of_eq rfl rfl rfl rfl
theorem F9.setSt (g : Gw) (s : CState) : F9 0 g (g.setSt s) := F9.of_eq rfl rfl rfl rfl
theorem F9.setNow (g : Gw) (t : Nat) : F9 0 g (g.setNow t) := F9.of_eq rfl rfl rfl rfl
theorem F9.clearBuffer (g : Gw) : F9 0 g g.clearBuffer := F9.of_eq rfl rfl rfl rfl
theorem F9.cancelSleepPinger (g : Gw) : F9 0 g g.cancelSleepPinger := F9.of_eq rfl rfl rfl rfl
theorem F9.startSleepPinger (g : Gw) (d : UInt16) : F9 0 g (g.startSleepPinger d) := F9.of_eq rfl rfl rfl rfl
theorem F9.armSleepPinger (g : Gw) (d : UInt16) : F9 0 g (g.armSleepPinger d) :=
  F9.ite (fun _ => F9.cancelSleepPinger g) fun _ => (F9.cancelSleepPinger g).trans (F9.startSleepPinger _ _)
theorem F9.pingBroker (g : Gw) : F9 0 g g.pingBroker :=
  (F9.of_eq (g := g) (g' := { g with ownPings := g.ownPings + 1 }) rfl rfl rfl rfl).trans (F9.mqttSend _ _ rfl)
theorem F9.keepBrokerAlive (g : Gw) : F9 0 g g.keepBrokerAlive := by
  unfold Gw.keepBrokerAlive
  refine F9.ite (fun _ => F9.refl g) fun _ => ?_
  split
  · exact F9.ite (fun _ => F9.refl g) fun _ => F9.pingBroker g
  · exact F9.pingBroker g

theorem F9.newTopicId {g g' : Gw} {r : Option UInt16} (h : g.newTopicId = (r, g')) : F9 0 g g' := by
  obtain ⟨s, e, h'⟩ := newTopicId_eq g
  rw [h] at h'; subst h'
  exact F9.of_eq rfl rfl rfl rfl
theorem F9.registrationTopicId {g g' : Gw} {topic : Bytes} {r : Option UInt16} (h : g.registrationTopicId topic = (r, g')) :
    F9 0 g g' := by
  obtain ⟨s, e, r', h'⟩ := registrationTopicId_eq g topic
  rw [h] at h'; subst h'
  exact F9.of_eq rfl rfl rfl rfl

theorem F9.armBp (g : Gw) (t : Tx) (q : UInt8) (s : BpSt) (d : BpData) (snp : Option Pkt) (ht : t ∈ g.txs)
    (hd : ∀ p, d = .mq p → notConnect p = true) (hn : isConnKind t.kind = false) : F9 0 g (g.armBp t q s d snp) :=
  F9.ite (fun _ => F9.refl g) fun _ => F9.setBp g t ht hd hn
theorem F9.finishIfDone (g : Gw) (id : Nat) (s : BpSt) : F9 0 g (g.finishIfDone id s) :=
  F9.ite (fun _ => F9.finishTx g id) fun _ => F9.refl g
theorem F9.proceedSN (g : Gw) (id : Nat) (s : BpSt) (p : Pkt) : F9 0 g (g.proceedSN id s p) := by
  unfold Gw.proceedSN
  split
  · rename_i t ht
    split
    · rename_i hkk
      exact ((F9.armBp g _ _ _ _ _ (getTx_mem ht) (fun _ e => by cases e) (by rw [hkk]; rfl)).trans (F9.snSend _ _ _)).trans
        (F9.finishIfDone _ _ _)
    · exact F9.refl g
  · exact F9.refl g
theorem F9.proceedMQ (g : Gw) (id : Nat) (s : BpSt) (p : MqPkt) (h : notConnect p = true) : F9 0 g (g.proceedMQ id s p) := by
  unfold Gw.proceedMQ
  split
  · rename_i t ht
    split
    · rename_i hkk
      exact ((F9.armBp g _ _ _ _ _ (getTx_mem ht) (fun _ e => by cases e; exact h) (by rw [hkk]; rfl)).trans
        (F9.mqttSend _ _ h)).trans (F9.finishIfDone _ _ _)
    · exact F9.refl g
  · exact F9.refl g

theorem F9.storeClientPub1 (g : Gw) (q : UInt8) (tid mid : UInt16) : F9 0 g (g.storeClientPub1 q tid mid) :=
  F9.ite (fun _ => (F9.newTx g _ _ _ (clientPub1_bp tid)).trans (F9.storeById _ _ _)) fun _ => F9.refl g
theorem F9.handleClientPublish (g : Gw) (dup : Bool) (q : UInt8) (r : Bool) (tit : UInt8) (tid mid : UInt16) (d : Bytes) :
    F9 0 g (g.handleClientPublish dup q r tit tid mid d) := by
  unfold Gw.handleClientPublish
  split
  · exact F9.fail g _
  · exact F9.fail g _
  · exact F9.ite (fun _ => F9.fail g _) fun _ => (F9.storeClientPub1 g _ _ _).trans (F9.mqttSend _ _ rfl)
theorem F9.forwardSubscribe (g : Gw) (dup : Bool) (q : UInt8) (mid : UInt16) (tp : Bytes) (tid : UInt16) :
    F9 0 g (g.forwardSubscribe dup q mid tp tid) :=
  F9.ite (fun _ => F9.fail g _) fun _ =>
    ((F9.newTx g _ _ _ (subscribe_bp tid)).trans (F9.storeById _ _ _)).trans (F9.mqttSend _ _ rfl)
theorem F9.handleSubscribe (g : Gw) (dup : Bool) (q tit : UInt8) (mid tid : UInt16) (n : Bytes) :
    F9 0 g (g.handleSubscribe dup q tit mid tid n) := by
  unfold Gw.handleSubscribe
  refine F9.ite (fun _ => F9.snSend g _ _) fun _ =>
    F9.ite (fun _ => ?_) fun _ =>
    F9.ite (fun _ => ?_) fun _ =>
    F9.ite (fun _ => F9.forwardSubscribe g _ _ _ _ _) fun _ => F9.forwardSubscribe g _ _ _ _ _
  · refine F9.ite (fun _ => ?_) fun _ => F9.forwardSubscribe g _ _ _ _ _
    split
    · exact F9.forwardSubscribe g _ _ _ _ _
    · split
      · exact ((F9.newTopicId ‹g.newTopicId = _›).trans (F9.storeRegistered _ _ _)).trans (F9.forwardSubscribe _ _ _ _ _ _)
      · exact (F9.newTopicId ‹g.newTopicId = _›).trans (F9.snSend _ _ _)
  · split
    · exact F9.forwardSubscribe g _ _ _ _ _
    · exact F9.fail g _
theorem F9.forwardUnsubscribe (g : Gw) (mid : UInt16) (tp : Bytes) : F9 0 g (g.forwardUnsubscribe mid tp) :=
  F9.ite (fun _ => F9.fail g _) fun _ => F9.mqttSend g _ rfl
theorem F9.handleUnsubscribe (g : Gw) (tit : UInt8) (mid tid : UInt16) (n : Bytes) : F9 0 g (g.handleUnsubscribe tit mid tid n) := by
  unfold Gw.handleUnsubscribe
  refine F9.ite (fun _ => F9.forwardUnsubscribe g _ _) fun _ =>
    F9.ite (fun _ => ?_) fun _ =>
    F9.ite (fun _ => F9.forwardUnsubscribe g _ _) fun _ => F9.forwardUnsubscribe g _ _
  split
  · exact F9.forwardUnsubscribe g _ _
  · exact F9.fail g _
theorem F9.handleRegister (g : Gw) (mid : UInt16) (n : Bytes) : F9 0 g (g.handleRegister mid n) := by
  unfold Gw.handleRegister
  refine F9.ite (fun _ => F9.snSend g _ _) fun _ => ?_
  split
  · exact F9.snSend g _ _
  · split
    · exact ((F9.newTopicId ‹g.newTopicId = _›).trans (F9.storeRegistered _ _ _)).trans (F9.snSend _ _ _)
    · exact (F9.newTopicId ‹g.newTopicId = _›).trans (F9.snSend _ _ _)
theorem F9.bpRegack (g : Gw) (t : Tx) (q : UInt8) (s : BpSt) (d : BpData) (snp : Option Pkt) (rc : UInt8) :
    F9 0 g (g.bpRegack t q s d snp rc) := by
  unfold Gw.bpRegack
  refine F9.ite (fun _ => F9.refl g) fun _ => F9.ite (fun _ => F9.finishTx g _) fun _ => ?_
  split
  · exact (F9.storeRegistered g _ _).trans (F9.proceedSN _ _ _ _)
  · exact F9.refl g
theorem F9.startBrokerPub (g : Gw) (q : UInt8) (m : UInt16) (s0 : BpSt) (snp : Option Pkt) (s : BpSt) (p : Pkt) :
    F9 0 g (g.startBrokerPub q m s0 snp s p) :=
  ((F9.newTx g _ _ _ (bp_ok _ _ _ _ _ fun _ e => by cases e)).trans (F9.storeByIdB _ _ _)).trans (F9.proceedSN _ _ _ _)
theorem F9.handleBrokerPublish (g : Gw) (dup : Bool) (q : UInt8) (r : Bool) (mid : UInt16) (tp pl : Bytes) :
    F9 0 g (g.handleBrokerPublish dup q r mid tp pl) := by
  unfold Gw.handleBrokerPublish
  refine F9.ite (fun _ => F9.refl g) fun _ => F9.ite (fun _ => F9.refl g) fun _ => ?_
  split
  · exact F9.ite (fun _ => F9.snSend g _ _) fun _ =>
      F9.ite (fun _ => F9.fail g _) fun _ => F9.startBrokerPub g _ _ _ _ _ _
  · split
    · exact F9.fail g _
    · refine F9.ite (fun _ => F9.fail g _) fun _ => ?_
      split
      · exact (F9.registrationTopicId ‹g.registrationTopicId tp = _›).trans (F9.fail _ _)
      · exact (F9.registrationTopicId ‹g.registrationTopicId tp = _›).trans (F9.startBrokerPub _ _ _ _ _ _ _)

/-- `hs` is what the `if st ≠ s then g else …` of a handler leaves -/
theorem unsent_of_kind {t : Tx} {st s : ConnSt} {f : ConnFields} (hk : t.kind = .connect st f) (hs : ¬ st ≠ s)
    (hne : s ≠ .awaitingConnack) : unsentTx t = true := by
  unfold unsentTx
  rw [hk, Decidable.not_not.mp hs]
  cases s with
  | awaitingConnack => exact absurd rfl hne
  | _ => rfl

theorem F9.connAuthenticated (g : Gw) (t : Tx) (f : ConnFields) (ht : t ∈ g.txs) (hu : unsentTx t = true) :
    F9 0 g (g.connAuthenticated t f) :=
  F9.ite (fun _ => (F9.setConn g t ht hu).trans (F9.snSend _ _ _)) fun _ => F9.sendConnect g t f _ ht hu

theorem F9.sendConnack (g : Gw) (rc : UInt8) : F9 0 g (g.sendConnack rc) := F9.snSend g _ _

theorem F9.connAuth (g : Gw) (t : Tx) (st : ConnSt) (f : ConnFields) (m d : Bytes) (ht : t ∈ g.txs)
    (hk : t.kind = .connect st f) : F9 0 g (g.connAuth t st f m d) := by
  unfold Gw.connAuth
  refine F9.ite (fun _ => F9.refl g) fun hs =>
    F9.ite (fun _ => ?_) fun _ => ((F9.sendConnack g _).trans (F9.finishTx _ _)).trans (F9.fail _ _)
  split
  · exact (F9.finishTx g _).trans (F9.fail _ _)
  · exact F9.connAuthenticated g t _ ht (unsent_of_kind hk hs (by decide))

theorem F9.connWillTopic (g : Gw) (t : Tx) (st : ConnSt) (f : ConnFields) (q : UInt8) (r : Bool) (tp : Bytes) (ht : t ∈ g.txs)
    (hk : t.kind = .connect st f) : F9 0 g (g.connWillTopic t st f q r tp) :=
  F9.ite (fun _ => F9.refl g) fun hs =>
  F9.ite (fun _ => (F9.finishTx g _).trans (F9.fail _ _)) fun _ =>
  (F9.setConn g t ht (unsent_of_kind hk hs (by decide))).trans (F9.snSend _ _ _)

theorem F9.connWillMsg (g : Gw) (t : Tx) (st : ConnSt) (f : ConnFields) (m : Bytes) (ht : t ∈ g.txs)
    (hk : t.kind = .connect st f) : F9 0 g (g.connWillMsg t st f m) :=
  F9.ite (fun _ => F9.refl g) fun hs => F9.sendConnect g t _ _ ht (unsent_of_kind hk hs (by decide))

theorem F9.connConnack (g : Gw) (t : Tx) (st : ConnSt) (rc : UInt8) : F9 0 g (g.connConnack t st rc) :=
  F9.ite (fun _ => F9.refl g) fun _ =>
  F9.ite (fun _ => ((F9.sendConnack g _).trans (F9.finishTx _ _)).trans (F9.fail _ _)) fun _ =>
  ((F9.setSt g .active).trans (F9.sendConnack _ _)).trans (F9.finishTx _ _)

theorem F9.cancelOldConnect (g : Gw) : F9 0 g g.cancelOldConnect := by
  unfold Gw.cancelOldConnect
  split
  · exact F9.finishTx g _
  · exact F9.refl g

/-- every id in the store is below `nextTx`, so the exchange found under the new id is the new one -/
theorem getTx_newTx (g : Gw) (hI : I9 g) (k : TxKind) (key : TxKey) (tm : Option Nat) :
    (g.newTx k key tm).2.getTx g.nextTx = some { id := g.nextTx, kind := k, key := key, timer := tm } := by
  have hn : g.txs.find? (·.id == g.nextTx) = none :=
    List.find?_eq_none.mpr fun x hx h => Nat.ne_of_lt (hI.lt x hx) (beq_iff_eq.mp h)
  unfold Gw.getTx
  rw [newTx_txs, List.find?_append, hn, Option.none_or]
  exact List.find?_cons_of_pos (beq_self_eq_true g.nextTx)

theorem F9.startConnectTx (g : Gw) (id : Nat) (f : ConnFields) (h : ∀ t, g.getTx id = some t → unsentTx t = true) :
    F9 0 g (g.startConnectTx id f) := by
  unfold Gw.startConnectTx
  refine F9.ite (fun _ => F9.refl g) fun _ => ?_
  split
  · rename_i t ht
    exact F9.connAuthenticated g t f (getTx_mem ht) (h t ht)
  · exact F9.refl g

theorem F9.startConnect (g : Gw) (f : ConnFields) : F9 1 g (g.startConnect f) := by
  refine F9.of_inv fun hI => (F9.newTx g _ _ _ (connect_bp .awaitingAuth _)).after ((F9.setConnectTx _ _).trans
    (F9.startConnectTx _ _ f fun t ht => ?_))
  -- what is found under the new id is the exchange just created, and that awaits AUTH
  cases (getTx_newTx g hI _ _ _).symm.trans ht
  rfl

theorem F9.flushBuffer (g : Gw) : F9 0 g g.flushBuffer := by
  obtain ⟨new, hn, e⟩ := flushBuffer_eq g
  rw [e]
  refine F9.of_outs rfl (fun o ho => ?_) rfl rfl rfl
  obtain ⟨bs, h⟩ := hn o ho
  unfold isMqConnect
  rw [h]

theorem F9.handleConnect (g : Gw) (will clean : Bool) (dur : UInt16) (cid : Bytes) :
    F9 1 g (g.handleConnect will clean dur cid) := by
  unfold Gw.handleConnect
  refine F9.ite (fun _ => ?_) fun _ => F9.ite (fun _ => (F9.snSend g _ _).zero) fun _ => ?_
  · exact ((((F9.cancelSleepPinger g).trans (F9.setSt _ .active)).trans (F9.snSend _ _ _)).trans (F9.flushBuffer _)).zero
  · exact ((F9.of_eq (g := g) (g' := { g with keepAlive := dur, clientId := cid }) rfl rfl rfl rfl).trans (F9.cancelOldConnect _)).before
      (F9.startConnect _ _)

theorem F9.handlePingreq (g : Gw) : F9 0 g g.handlePingreq :=
  F9.ite
    (fun _ => ((((F9.setSt g _).trans (F9.flushBuffer _)).trans (F9.snSend _ _ _)).trans (F9.setSt _ _)).trans (F9.armSleepPinger _ _))
    fun _ => F9.mqttSend g _ rfl

theorem F9.clearBufferUnlessAsleep (g : Gw) : F9 0 g g.clearBufferUnlessAsleep :=
  F9.ite (fun _ => F9.clearBuffer g) fun _ => F9.refl g

theorem F9.handleSleep (g : Gw) (d : UInt16) : F9 0 g (g.handleSleep d) :=
  ((((F9.of_eq (g := g) (g' := { g with sleepDur := d }) rfl rfl rfl rfl).trans (F9.armSleepPinger _ _)).trans
    (F9.clearBufferUnlessAsleep _)).trans (F9.snSendNow _ _)).trans (F9.setSt _ _)

theorem F9.handlePlainDisconnect (g : Gw) : F9 0 g g.handlePlainDisconnect :=
  (((F9.mqttSend g _ rfl).trans (F9.setSt _ _)).trans (F9.snSend _ _ _)).trans (F9.fail _ _)

theorem F9.handleDisconnect (g : Gw) (d : UInt16) : F9 0 g (g.handleDisconnect d) :=
  F9.ite (fun _ => F9.handlePlainDisconnect g) fun _ => F9.handleSleep g d

theorem F9.retryExpire (g : Gw) (t : Tx) (ht : t ∈ g.txs) : F9 0 g (g.retryExpire t) := by
  unfold Gw.retryExpire
  split
  · rename_i q st data snp n hk
    have hn : isConnKind t.kind = false := by rw [hk]; rfl
    refine F9.ite (fun _ => F9.setTimer g t _ ht (.inl hn)) fun _ =>
      F9.ite (fun _ => F9.setTimer g t _ ht (.inl hn)) fun _ =>
      F9.ite (fun _ => F9.finishTx g _) fun _ => ?_
    split
    · refine F9.trans ?_ (F9.snSend _ _ _)
      refine F9.trans ?_ (F9.setBp _ t ht (fun _ e => by cases e) hn)
      exact F9.of_eq rfl rfl rfl rfl
    · rename_i p _
      -- what is sent again is what the exchange holds, and `I9` says that is no CONNECT
      refine F9.of_inv fun hI => ?_
      have hp : notConnect p = true := hI.bp t ht q st p snp n hk
      exact (F9.setBp g t ht (fun _ e => by cases e; exact hp) hn).trans (F9.mqttSend _ p hp)
    · exact F9.finishTx g _
  · exact F9.refl g

theorem F9.txExpire (g : Gw) (t : Tx) (ht : t ∈ g.txs) : F9 0 g (g.txExpire t) := by
  unfold Gw.txExpire
  split
  -- a finished connect exchange: its timer may go
  · exact F9.ite (fun hd => F9.setTimer g t _ ht (.inr hd)) fun _ => (F9.finishTx g _).trans (F9.fail _ _)
  · exact F9.ite (fun _ => F9.setTimer g t _ ht (.inl (by rw [‹t.kind = _›]; rfl))) fun _ => F9.finishTx g _
  · exact F9.ite (fun _ => F9.setTimer g t _ ht (.inl (by rw [‹t.kind = _›]; rfl))) fun _ => F9.finishTx g _
  · exact F9.retryExpire g t ht

theorem F9.firePing (g : Gw) (i : Nat) : F9 0 g (g.firePing i) := by
  refine F9.trans ?_ (F9.pingBroker _)
  exact F9.of_eq rfl rfl rfl rfl

theorem F9.fireDue (g : Gw) (d : Due) : F9 0 g (g.fireDue d) := by
  unfold Gw.fireDue
  split
  · unfold Gw.fireTx
    split
    · rename_i t ht
      exact (F9.setNow g _).trans (F9.txExpire _ t (getTx_mem ht))
    · exact F9.setNow g _
  · exact (F9.setNow g _).trans (F9.firePing _ _)
  · exact F9.of_eq rfl rfl rfl rfl

theorem F9.stopTimers (g : Gw) : F9 0 g g.stopTimers := by
  -- the three parts of `I9`, the potential, and `Kept` by its first disjunct: the session has ended
  refine ⟨fun hI => ⟨⟨?_, fun x hx => ?_, fun x hx => ?_⟩, Nat.le_of_eq ?_, fun _ => rfl, .inl rfl⟩⟩
  · show ((g.txs.map fun t => ({ t with timer := none } : Tx)).map (·.id)).Nodup
    rw [List.map_map]; exact hI.nodup
  · obtain ⟨y, hy, rfl⟩ := List.mem_map.mp hx
    exact hI.lt y hy
  · obtain ⟨y, hy, rfl⟩ := List.mem_map.mp hx
    exact hI.bp y hy
  · show (mqConnects g).length + ((g.txs.map fun t => ({ t with timer := none } : Tx)).filter unsentTx).length = _
    -- `unsentTx` does not read the timer
    rw [List.filter_map, List.length_map]; rfl

theorem F9.shutdownDisconnect (g : Gw) : F9 0 g g.shutdownDisconnect := F9.ite (fun _ => F9.emit g _ rfl) fun _ => F9.refl g
theorem F9.emitEnd (g : Gw) : F9 0 g g.emitEnd := (F9.emit g _ rfl).trans (F9.emit _ _ rfl)

theorem F9.finishSession (g : Gw) : F9 0 g g.finishSession := by
  unfold Gw.finishSession
  split
  · exact F9.ite (fun _ => F9.refl g) fun _ =>
      (((F9.setNow g _).trans (F9.shutdownDisconnect _)).trans (F9.emitEnd _)).trans (F9.stopTimers _)
  · exact F9.refl g

theorem F9.advance : ∀ (fuel : Nat) (g : Gw) (t : Nat), F9 0 g (advance fuel g t) := by
  intro fuel
  induction fuel with
  | zero => intro g t; exact F9.setNow g _
  | succ n ih =>
    intro g t
    unfold Gw.advance
    refine F9.ite (fun _ => (F9.finishSession g).trans (F9.setNow _ _)) fun _ => ?_
    split
    · exact ((F9.fireDue g _).trans (F9.finishSession _)).trans (ih _ t)
    · exact F9.setNow g _

theorem F9.sample (g : Gw) : F9 0 g g.sample := by
  obtain ⟨new, hn, e⟩ := sample_eq g
  rw [e]
  exact F9.of_outs rfl (fun o ho => isMqConnect_report (hn o ho)) rfl rfl rfl

/-- what a client packet may add to the potential: a CONNECT opens one exchange -/
def connBudget : Pkt → Nat | .connect .. => 1 | _ => 0

theorem F9.handleSn (g : Gw) (p : Pkt) : F9 (connBudget p) g (g.handleSn p) := by
  unfold Gw.handleSn
  refine F9.ite (fun _ => (F9.fail g _).zero) fun _ => ?_
  split
  · exact F9.handleConnect g _ _ _ _
  · split
    · exact F9.connAuth g _ _ _ _ _ (connTx_spec ‹g.connTx = _›).1 (connTx_spec ‹g.connTx = _›).2
    · exact F9.refl g
  · split
    · exact F9.connWillTopic g _ _ _ _ _ _ (connTx_spec ‹g.connTx = _›).1 (connTx_spec ‹g.connTx = _›).2
    · exact F9.refl g
  · split
    · exact F9.connWillMsg g _ _ _ _ (connTx_spec ‹g.connTx = _›).1 (connTx_spec ‹g.connTx = _›).2
    · exact F9.refl g
  · exact F9.handleRegister g _ _
  · exact F9.handleClientPublish g _ _ _ _ _ _ _
  · exact F9.mqttSend g _ rfl
  · exact F9.handleSubscribe g _ _ _ _ _ _
  · exact F9.handleUnsubscribe g _ _ _ _
  · exact F9.handlePingreq g
  · exact F9.handleDisconnect g _
  · split
    · split
      · exact F9.bpRegack g _ _ _ _ _ _
      · exact F9.refl g
    · exact F9.refl g
  · split
    · split
      · exact F9.ite (fun _ => F9.refl g) fun _ => F9.ite (fun _ => F9.finishTx g _) fun _ => F9.proceedMQ g _ _ _ rfl
      · exact F9.refl g
    · exact F9.refl g
  · split
    · split
      · exact F9.ite (fun _ => F9.refl g) fun _ => F9.proceedMQ g _ _ _ rfl
      · exact F9.refl g
    · exact F9.refl g
  · split
    · split
      · exact F9.ite (fun _ => F9.refl g) fun _ => F9.proceedMQ g _ _ _ rfl
      · exact F9.refl g
    · exact F9.refl g
  · exact (F9.fail g _).zero

theorem F9.handleMq (g : Gw) (p : MqPkt) : F9 0 g (g.handleMq p) := by
  unfold Gw.handleMq
  split
  · split
    · exact F9.connConnack g _ _ _
    · exact F9.refl g
  · split
    · split
      · exact (F9.finishTx g _).trans (F9.snSend _ _ _)
      · exact F9.refl g
    · exact F9.refl g
  · exact F9.snSend g _ _
  · exact F9.snSend g _ _
  · split
    · split
      · split
        · exact F9.ite (fun _ => (F9.finishTx g _).trans (F9.snSend _ _ _)) fun _ =>
            (F9.finishTx g _).trans (F9.snSend _ _ _)
        · exact (F9.finishTx g _).trans (F9.fail _ _)
      · exact F9.refl g
    · exact F9.refl g
  · exact F9.snSend g _ _
  · exact F9.ite (fun _ => F9.of_eq rfl rfl rfl rfl) fun _ => F9.ite (fun _ => F9.refl g) fun _ => F9.snSend g _ _
  · exact F9.handleBrokerPublish g _ _ _ _ _ _
  · split
    · split
      · exact F9.ite (fun _ => F9.refl g) fun _ => F9.proceedSN g _ _ _
      · exact F9.refl g
    · exact F9.refl g
  · exact F9.fail g _

/-- 1 for a datagram that decodes as a CONNECT, 0 for every other event -/
def connectDatagram : Event → Nat
  | .sn bytes => match decode (bytes.take Gen.MaxPacketLen) with
    | .ok (_, p) => connBudget p
    | _ => 0
  | _ => 0

theorem F9.handleEvent (g : Gw) (ev : Event) : F9 (connectDatagram ev) g (g.handleEvent ev) := by
  unfold Gw.handleEvent
  split
  · split
    · rename_i hd p hdec
      simp only [connectDatagram, hdec]
      exact (F9.handleSn g p).after (F9.keepBrokerAlive _)
    · exact (F9.fail g _).zero
  · exact F9.handleMq g _
  · exact F9.fail g _
  · exact F9.ite (fun _ => F9.fail g _) fun _ => F9.fail g _
  · exact F9.fail g _
  · exact F9.refl g

theorem F9.deliver (g : Gw) (t : Nat) (ev : Event) : F9 (connectDatagram ev) g (g.deliver t ev) :=
  F9.ite (fun _ => (F9.finishSession g).zero) fun _ =>
    (F9.handleEvent g ev).after ((F9.advance 100000 _ t).trans (F9.finishSession _))

theorem F9.step (g : Gw) (t : Nat) (ev : Event) : F9 (connectDatagram ev) g (g.step t ev) :=
  ((F9.advance 100000 g t).before (F9.deliver _ t ev)).after (F9.sample _)

theorem i9_init (cfg : Cfg) (a b : UInt16) : I9 (Gw.init cfg a b) :=
  ⟨List.nodup_nil, fun _ h => absurd h List.not_mem_nil, fun _ h => absurd h List.not_mem_nil⟩

theorem F9.run (evs : List (Nat × Event)) : ∀ g : Gw, F9 (evs.map fun e => connectDatagram e.2).sum g (g.run evs) := by
  unfold Gw.run
  induction evs with
  | nil => exact F9.refl
  | cons e rest ih =>
    intro g
    obtain ⟨t, ev⟩ := e
    rw [List.foldl_cons, List.map_cons, List.sum_cons]
    exact F9.comp (b := g.step t ev) (F9.step g t ev) (ih _)

end Bisquitt.Gw
