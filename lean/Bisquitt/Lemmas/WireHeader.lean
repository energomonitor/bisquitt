/-
  For C21: the header a `NewXxx` constructor leaves behind announces `varLen p` bytes of variable part
  (`newHeader_new`; for a legal packet it is `hdrFor p.typeCode (varLen p)`, `newHeader_eq`).
  `simp only [f.eq_def]`, here and in `WireBody.lean`, for `varLen` and `packBody`: unfolding a match over the 28
  constructors of `Pkt` by the definition spares Lean deriving one equation per arm.
-/
import Bisquitt.Lemmas.WireFlags

namespace Bisquitt
open Gen Spec

/-- variable-part length that `computeLength` (or the constructor, for the fixed-size types)
    announces, before truncation to 16 bits -/
def varLen : Pkt → Nat
  | .advertise .. => 3
  | .searchgw .. => 1
  | .gwinfo _ a => 1 + a.length
  | .auth _ m d => 2 + m.length + d.length
  | .connect _ _ _ _ cid => 4 + cid.length
  | .connack _ => 1
  | .willtopicreq => 0
  | .willtopic _ _ t | .willtopicupd _ _ t => if t.length = 0 then 0 else 1 + t.length
  | .willmsgreq => 0
  | .willmsg m | .willmsgupd m => m.length
  | .register _ _ n => 4 + n.length
  | .regack .. => 5
  | .publish _ _ _ _ _ _ d => 5 + d.length
  | .puback .. => 5
  | .pubcomp _ | .pubrec _ | .pubrel _ | .unsuback _ => 2
  | .subscribe _ _ tit _ _ n | .unsubscribe tit _ _ n =>
      3 + (if tit = TIT_STRING then n.length else if tit = TIT_PREDEFINED ∨ tit = TIT_SHORT then 2 else 0)
  | .suback .. => 6
  | .pingreq cid => cid.length
  | .pingresp => 0
  | .disconnect d => if d = 0 then 0 else 2
  | .willtopicresp _ | .willmsgresp _ => 1

theorem c16_self (c : UInt16) : c = UInt16.ofNat c.toNat := UInt16.ofNat_toNat.symm

theorem len16_eq (bs : Bytes) : len16 bs = UInt16.ofNat bs.length := rfl

theorem setVar_setVar (h : Header) (a b : UInt16) :
    (h.setVarPartLength a).setVarPartLength b = h.setVarPartLength b := by
  unfold Header.setVarPartLength; split <;> split <;> rfl

/-- left: the fixed-size types, whose constructor announces the size; right: the types whose `Pack` does -/
theorem computeLength_eq (p : Pkt) :
    ((∀ h, computeLength h p = h) ∧ fixedVarPartLength p = UInt16.ofNat (varLen p)) ∨
    ∀ h, computeLength h p = h.setVarPartLength (UInt16.ofNat (varLen p)) := by
  cases p with
  | gwinfo | auth | connect | willtopic | willtopicupd | willmsg | willmsgupd | register | publish | subscribe
  | unsubscribe | pingreq | disconnect =>
    refine .inr fun h => ?_
    simp only [varLen.eq_def, UInt16.ofNat_add, apply_ite UInt16.ofNat,
      apply_ite h.setVarPartLength] <;> rfl
  | _ => exact .inl ⟨fun _ => rfl, rfl⟩

theorem computeLength_idem (h : Header) (p : Pkt) :
    computeLength (computeLength h p) p = computeLength h p := by
  rcases computeLength_eq p with ⟨e, -⟩ | e
  · rw [e]
  · rw [e, e, setVar_setVar]

/-- For every packet, legal or not: both sides are computed in `uint16`. -/
theorem newHeader_new (p : Pkt) : newHeader p = Header.new p.typeCode (UInt16.ofNat (varLen p)) := by
  unfold newHeader
  rcases computeLength_eq p with ⟨e, f⟩ | e
  · rw [e, f]
  · rw [e]; exact setVar_setVar ..

/-- 5: the largest fixed part in front of a variable-length field (PUBLISH) -/
theorem legal_varLen {p : Pkt} (h : Legal p = true) : varLen p ≤ maxPayload + 5 := by
  cases p with
  | gwinfo | auth | connect | willtopic | willtopicupd | willmsg | willmsgupd | register | publish | subscribe
  | unsubscribe | pingreq | disconnect =>
    simp only [Legal, varLen.eq_def, Bool.and_eq_true, decide_eq_true_eq, maxPayload, MaxPayloadLength] at h ⊢
    (repeat' split) <;> omega
  | _ => exact Nat.le_of_ble_eq_true rfl

theorem legal_len_bound {p : Pkt} (h : Legal p = true) : varLen p ≤ 65000 :=
  Nat.le_trans (legal_varLen h) (by decide)

theorem newHeader_eq {p : Pkt} (h : Legal p = true) : newHeader p = hdrFor p.typeCode (varLen p) := by
  rw [newHeader_new, new_ofNat _ _ (legal_len_bound h)]

end Bisquitt
