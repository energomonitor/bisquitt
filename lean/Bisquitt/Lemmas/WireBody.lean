/-
  For C21: size and decoding of the encoded body (`Props/C21.lean`: `encode_form` puts them together with
  `newHeader_eq`; `hv` is the only link between header and body).  Only WILLTOPIC,
  WILLTOPICUPD and DISCONNECT bodies depend on the header, and only on whether it announces an
  empty variable part (`hv`).
-/
import Bisquitt.Lemmas.WireHeader
import Bisquitt.Lemmas.WireReads

namespace Bisquitt
open Gen Spec

theorem packBody_length (h : Header) (p : Pkt) (hv : h.varPartLength > 0 ↔ 0 < varLen p) :
    (packBody h p).length = varLen p := by
  cases p with
  | willtopic q r t | willtopicupd q r t =>
    simp only [packBody.eq_def, varLen.eq_def, hv]
    by_cases ht : t.length = 0
    · rw [if_pos ht]; rfl
    · rw [if_neg ht, if_pos (by omega)]; exact Nat.add_comm ..
  | disconnect d =>
    simp only [packBody.eq_def, varLen.eq_def, hv]
    split <;> rfl
  | gwinfo | auth | connect | register | publish | subscribe | unsubscribe =>
    simp only [packBody.eq_def, varLen.eq_def, enc16, List.length_cons, List.length_append, List.length_nil,
      apply_ite List.length, Nat.reduceAdd] <;> omega
  | _ => rfl

theorem willTopicLike_rt (mk : UInt8 → Bool → Bytes → Pkt) (q : UInt8) (r : Bool) (t : Bytes)
    (hq : q ≤ 3) (h0 : t.length = 0 → q = 0 ∧ r = false) :
    unpackWillTopicLike mk
      (if 0 < (if t.length = 0 then 0 else 1 + t.length) then willTopicFlags q r :: t else []) =
      .ok (mk q r t) := by
  match t with
  | [] => obtain ⟨rfl, rfl⟩ := h0 rfl; rfl
  | x :: t =>
    obtain ⟨f1, f2⟩ := willTopicFlags_rt r q hq
    calc _ = Res.ok (mk (qosOf _) (hasBit _ _) _) := rfl
      _ = _ := by rw [f1, f2]; rfl

theorem topicReq_rt (mk : UInt8 → UInt8 → UInt16 → UInt16 → Bytes → Pkt) (f tit : UInt8) (m t : UInt16)
    (n : Bytes) (hf : f &&& 3 = tit) (ht : tit ≤ 2)
    (hn : (if tit == 0 then decide (1 ≤ n.length) && t == 0 else n.length == 0) = true) :
    unpackTopicReq mk (f :: (enc16 m ++
      (if tit = TIT_STRING then n
       else if tit = TIT_PREDEFINED ∨ tit = TIT_SHORT then enc16 t else []))) = .ok (mk f tit m t n) := by
  conv => rhs; rw [← mk16_hi_lo m, ← mk16_hi_lo t]
  rcases u8_le2 ht with rfl | rfl | rfl
  · obtain ⟨h1, rfl⟩ : 1 ≤ n.length ∧ t = 0 := by
      simpa only [if_true, Bool.and_eq_true, decide_eq_true_eq, beq_iff_eq] using hn
    obtain ⟨x, n, rfl⟩ := List.exists_cons_of_length_pos h1
    -- on the explicit bytes the decoder computes up to its test of the flags byte, and again behind it
    exact (if_pos hf).trans (by rw [hf]; rfl)
  all_goals
    cases List.length_eq_zero_iff.mp (by simpa using hn)
    have h0 : ¬f &&& 3 = 0 := by rw [hf]; decide
    have h12 : f &&& 3 = 1 ∨ f &&& 3 = 2 := by rw [hf]; decide
    exact (if_neg h0).trans ((if_pos h12).trans (by rw [hf]; rfl))

/-- the body decodes to the packet.  On the explicit bytes of `packBody` the decoder computes (`rfl`), once the
    16-bit fields of the expected packet are written as reassembled from their two bytes (`mk16_hi_lo`); a flags byte
    gives back its fields.  (`show` in place of `conv` or `calc` would run the decoder twice.) -/
theorem unpackBody_packBody (h : Header) {p : Pkt} (hl : Legal p = true)
    (hv : h.varPartLength > 0 ↔ 0 < varLen p) : unpackBody p.typeCode (packBody h p) = .ok p := by
  cases p with
  | advertise _ m | pubcomp m | pubrec m | pubrel m | unsuback m =>
    conv => rhs; rw [← mk16_hi_lo m]
    rfl
  | regack t m _ | puback t m _ =>
    conv => rhs; rw [← mk16_hi_lo t, ← mk16_hi_lo m]
    rfl
  | register t m n =>
    simp only [Legal, Bool.and_eq_true, decide_eq_true_eq] at hl
    obtain ⟨x, n, rfl⟩ := List.exists_cons_of_length_pos hl.1
    conv => rhs; rw [← mk16_hi_lo t, ← mk16_hi_lo m]
    rfl
  | suback q t m rc =>
    conv => rhs; rw [← mk16_hi_lo t, ← mk16_hi_lo m, ← qosBits_rt q (of_decide_eq_true hl)]
    rfl
  | publish dup q r tit t m d =>
    simp only [Legal, Bool.and_eq_true, decide_eq_true_eq] at hl
    obtain ⟨f1, f2, f3, f4⟩ := publishFlags_rt dup r q tit hl.1.1 hl.1.2
    calc _ = Res.ok (Pkt.publish (hasBit _ _) (qosOf _) (hasBit _ _) (_ &&& _) (mk16 _ _) (mk16 _ _) _) := rfl
      _ = _ := by rw [mk16_hi_lo, mk16_hi_lo, f1, f2, f3, f4]; rfl
  | connect w c proto dur cid =>
    simp only [Legal, Bool.and_eq_true, decide_eq_true_eq, beq_iff_eq] at hl
    obtain ⟨⟨rfl, hc⟩, -⟩ := hl
    obtain ⟨x, cid, rfl⟩ := List.exists_cons_of_length_pos hc
    obtain ⟨f1, f2⟩ := connectFlags_rt w c
    calc _ = Res.ok (Pkt.connect (hasBit _ _) (hasBit _ _) 1 (mk16 _ _) _) := rfl
      _ = _ := by rw [mk16_hi_lo, f1, f2]; rfl
  | auth r m d =>
    simp only [Legal, Bool.and_eq_true, decide_eq_true_eq] at hl
    have e : (UInt8.ofNat m.length).toNat = m.length := UInt8.toNat_ofNat_of_lt' (show _ < 256 by omega)
    have hlen : ¬(r :: UInt8.ofNat m.length :: (m ++ d)).length < 2 + (UInt8.ofNat m.length).toNat := by
      rw [e, List.length_cons, List.length_cons, List.length_append]; omega
    -- the decoder computes up to its test of the method length; behind it are the two slices
    exact (if_neg hlen).trans (by rw [e]; simp [packBody.eq_def, slice, sliceFrom, Nat.add_comm 2])
  | disconnect d =>
    simp only [Pkt.typeCode, ub_disconnect, packBody.eq_def, varLen.eq_def, hv]
    by_cases hd : d = 0
    · subst hd; rfl
    · rw [if_neg hd]
      conv => rhs; rw [← mk16_hi_lo d]
      rfl
  | willtopic q r t | willtopicupd q r t =>
    simp only [Legal, Bool.and_eq_true, decide_eq_true_eq, beq_iff_eq] at hl
    simp only [Pkt.typeCode, ub_willtopic, ub_willtopicupd, packBody.eq_def, varLen.eq_def, hv]
    exact willTopicLike_rt _ q r t hl.1.2 hl.2
  | subscribe dup q tit m t n =>
    simp only [Legal, Bool.and_eq_true, decide_eq_true_eq] at hl
    obtain ⟨f1, f2, f3⟩ := subscribeFlags_rt dup q tit hl.1.1.1 (UInt8.le_trans hl.1.1.2 (by decide))
    simp only [Pkt.typeCode, ub_subscribe, packBody.eq_def, unpackSubscribe_eq]
    exact (topicReq_rt _ _ tit m t n f3 hl.1.1.2 hl.2).trans (by simp only [f1, f2])
  | unsubscribe tit m t n =>
    simp only [Legal, Bool.and_eq_true, decide_eq_true_eq] at hl
    have f := tit_and tit (UInt8.le_trans hl.1.1 (by decide))
    simp only [Pkt.typeCode, ub_unsubscribe, packBody.eq_def, unpackUnsubscribe_eq]
    exact topicReq_rt _ _ tit m t n (by rw [f, f]) hl.1.1 hl.2
  -- the types whose body holds no 16-bit field and no flags byte: the decoder computes on the explicit bytes
  | _ => rfl

end Bisquitt
