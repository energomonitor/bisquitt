/-
  What the gateway means by its TopicIDs, and what keeps that unambiguous.  The gateway has two tables: `G`
  (TopicID ↦ name, the registry) and `R` (name ↦ TopicID chosen for it, the REGISTER not yet acknowledged);
  `Means G R i n`: ID `i` stands for name `n` in one of them.  `One M`: an ID means one name.  `Tables C M b`: that,
  every ID in use lies below `b`, and the client's table `C` holds only what is meant.  Four things happen to the
  tables — the client learns a pair that is meant (`Tables.learn`), a pair under an ID at or beyond `b` is bound or
  chosen (`Tables.bind`, `Tables.choose`), a chosen pair is bound (`Means.bind_chosen`: nothing changes) — and they
  are what C04's invariant `K` (one gateway, every run, no client) and C26's `Inv` / `Inv2` (client and gateway,
  histories of exchanges) are carried through.
-/
import Bisquitt.Lemmas.Assoc

namespace Bisquitt

variable {C : List (Bytes × UInt16)} {M M' : UInt16 → Bytes → Prop} {G : List (UInt16 × Bytes)}
  {R : List (Bytes × UInt16)} {b b' : Nat} {i i₀ : UInt16} {n n₀ : Bytes}

def One (M : UInt16 → Bytes → Prop) : Prop := ∀ i n n', M i n → M i n' → n = n'

theorem One.extend (h : One M) (hM : ∀ i n, M' i n ↔ M i n ∨ (i = i₀ ∧ n = n₀)) (fresh : ∀ n, ¬ M i₀ n) : One M' := by
  intro i n n' m m'
  rcases (hM i n).mp m with m | ⟨rfl, rfl⟩ <;> rcases (hM i n').mp m' with m' | ⟨e, rfl⟩
  · exact h i n n' m m'
  · exact absurd (e ▸ m) (fresh n)
  · exact absurd m' (fresh n')
  · rfl

/-- the gateway means name `n` by TopicID `i`: bound to it, or chosen for it -/
def Means (G : List (UInt16 × Bytes)) (R : List (Bytes × UInt16)) (i : UInt16) (n : Bytes) : Prop :=
  G.lookup i = some n ∨ R.lookup n = some i

theorem Means.nil : Means G [] i n ↔ G.lookup i = some n := by simp [Means]

theorem Means.not_nil : ¬ Means [] [] i n := fun m => m.elim nofun nofun

theorem Means.bind_fresh (h : G.lookup i₀ = none) :
    Means ((i₀, n₀) :: G) R i n ↔ Means G R i n ∨ (i = i₀ ∧ n = n₀) := by
  unfold Means
  rw [lookup_cons_fresh n₀ h, or_right_comm]

theorem Means.choose_fresh (h : R.lookup n₀ = none) :
    Means G ((n₀, i₀) :: R) i n ↔ Means G R i n ∨ (i = i₀ ∧ n = n₀) := by
  unfold Means
  rw [lookup_cons_fresh i₀ h, or_assoc, and_comm]

/-- binding a TopicID to the name it was chosen for changes nothing of what the IDs mean -/
theorem Means.bind_chosen (one : One (Means G R)) (hR : R.lookup n₀ = some i₀) :
    Means ((i₀, n₀) :: G) R = Means G R := by
  funext i n
  unfold Means at *
  rw [lookup_cons_some]
  refine propext ⟨?_, ?_⟩
  · rintro ((⟨rfl, rfl⟩ | ⟨_, hG⟩) | hR')
    · exact .inr hR
    · exact .inl hG
    · exact .inr hR'
  · rintro (hG | hR')
    · by_cases e : i = i₀
      · exact .inl (.inl ⟨e, one i n n₀ (.inl hG) (.inr (e ▸ hR))⟩)
      · exact .inl (.inr ⟨e, hG⟩)
    · exact .inr hR'

/-- in terms of the two tables: a chosen ID is unbound or bound to the name it was chosen for, and is chosen for
    one name only -/
theorem one_means_iff : One (Means G R) ↔
    (∀ n i, R.lookup n = some i → G.lookup i = none ∨ G.lookup i = some n) ∧
    (∀ n n' i, R.lookup n = some i → R.lookup n' = some i → n = n') := by
  refine ⟨fun h => ⟨fun n i hR => ?_, fun n n' i h1 h2 => h i n n' (.inr h1) (.inr h2)⟩, fun ⟨rc, ri⟩ i n n' m m' => ?_⟩
  · cases hG : G.lookup i with
    | none => exact .inl rfl
    | some m => exact .inr (congrArg some (h i m n (.inl hG) (.inr hR)))
  · have mixed : ∀ {n n'}, G.lookup i = some n → R.lookup n' = some i → n = n' := fun hG hR =>
      (rc _ i hR).elim (fun e => by rw [e] at hG; cases hG) fun e => Option.some.inj (hG.symm.trans e)
    rcases m with hG | hR <;> rcases m' with hG' | hR'
    · exact Option.some.inj (hG.symm.trans hG')
    · exact mixed hG hR'
    · exact (mixed hG' hR).symm
    · exact ri n n' i hR hR'

/-- `Tables C M b`, for the client's table `C` (name ↦ TopicID), what the gateway means by its TopicIDs and a bound
    `b` behind which it allocates -/
structure Tables (C : List (Bytes × UInt16)) (M : UInt16 → Bytes → Prop) (b : Nat) : Prop where
  /-- what the client knows a name by, the gateway means that name by -/
  sub : ∀ n i, C.lookup n = some i → M i n
  one : One M
  below : ∀ i n, M i n → i.toNat < b

theorem Tables.learn (h : Tables C M b) (hm : M i n) : Tables ((n, i) :: C) M b :=
  { h with sub := forall_lookup_cons h.sub hm }

theorem Tables.extend (h : Tables C M b) (hM : ∀ i n, M' i n ↔ M i n ∨ (i = i₀ ∧ n = n₀))
    (hle : b ≤ i₀.toNat) (hlt : i₀.toNat < b') : Tables C M' b' := by
  refine ⟨fun n i hl => (hM i n).mpr (.inl (h.sub n i hl)),
    h.one.extend hM fun n m => Nat.lt_irrefl _ (Nat.lt_of_lt_of_le (h.below _ n m) hle), fun i n m => ?_⟩
  rcases (hM i n).mp m with m | ⟨rfl, _⟩
  · exact Nat.lt_trans (Nat.lt_of_lt_of_le (h.below i n m) hle) hlt
  · exact hlt

theorem Tables.unbound (h : Tables C (Means G R) b) (hle : b ≤ i.toNat) : G.lookup i = none :=
  Option.eq_none_iff_forall_ne_some.mpr fun n hG => Nat.lt_irrefl _ (Nat.lt_of_lt_of_le (h.below i n (.inl hG)) hle)

theorem Tables.bind (h : Tables C (Means G R) b) (hle : b ≤ i₀.toNat) (hlt : i₀.toNat < b') :
    Tables C (Means ((i₀, n₀) :: G) R) b' :=
  h.extend (fun _ _ => Means.bind_fresh (h.unbound hle)) hle hlt

theorem Tables.choose (h : Tables C (Means G R) b) (hR : R.lookup n₀ = none) (hle : b ≤ i₀.toNat) (hlt : i₀.toNat < b') :
    Tables C (Means G ((n₀, i₀) :: R)) b' :=
  h.extend (fun _ _ => Means.choose_fresh hR) hle hlt

theorem Tables.nil (b : Nat) : Tables [] (Means [] []) b :=
  ⟨nofun, fun _ _ _ m => (Means.not_nil m).elim, fun _ _ m => (Means.not_nil m).elim⟩

end Bisquitt
