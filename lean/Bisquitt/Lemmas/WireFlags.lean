/-
  For C21 (encode then decode): a flags byte gives back its fields; `hdrFor t n`, the header the constructors
  produce for a variable part of `n` bytes, and what the decoder reads from it.  The bound `n ≤ 65000` of the header
  lemmas is any bound that keeps `n + 4` a 16-bit number; legal packets are far below it (`legal_len_bound`).
-/
import Bisquitt.Spec.Codec

namespace Bisquitt
open Gen Spec

/-! ### flag bytes: finitely many cases, checked by evaluation -/

theorem u8_fin4 {q : UInt8} (h : q ≤ 3) : ∃ i : Fin 4, q = UInt8.ofNat i :=
  ⟨⟨q.toNat, Nat.lt_succ_of_le (UInt8.le_iff_toNat_le.mp h)⟩, by simp⟩

theorem u8_le2 {q : UInt8} (h : q ≤ 2) : q = 0 ∨ q = 1 ∨ q = 2 := by
  obtain ⟨i, rfl⟩ := u8_fin4 (UInt8.le_trans h (by decide))
  revert i; decide +kernel

theorem publishFlags_rt (dup r : Bool) (q tit : UInt8) (hq : q ≤ 3) (ht : tit ≤ 3) :
    hasBit (publishFlags dup q r tit) flagsDUPBit = dup ∧ qosOf (publishFlags dup q r tit) = q ∧
    hasBit (publishFlags dup q r tit) flagsRetainBit = r ∧
    (publishFlags dup q r tit) &&& flagsTopicIDTypeBits = tit := by
  obtain ⟨q, rfl⟩ := u8_fin4 hq
  obtain ⟨tit, rfl⟩ := u8_fin4 ht
  -- 64 cases; with `+kernel` only the kernel evaluates them
  revert dup r q tit; decide +kernel

/- the other flag bytes are PUBLISH flags with some fields absent -/

theorem subscribeFlags_rt (dup : Bool) (q tit : UInt8) (hq : q ≤ 3) (ht : tit ≤ 3) :
    hasBit (subscribeFlags dup q tit) flagsDUPBit = dup ∧ qosOf (subscribeFlags dup q tit) = q ∧
    (subscribeFlags dup q tit) &&& flagsTopicIDTypeBits = tit := by
  have e : subscribeFlags dup q tit = publishFlags dup q false tit := by
    simp [subscribeFlags, publishFlags, bit]
  obtain ⟨h1, h2, _, h4⟩ := publishFlags_rt dup false q tit hq ht
  exact e ▸ ⟨h1, h2, h4⟩

theorem willTopicFlags_rt (r : Bool) (q : UInt8) (hq : q ≤ 3) :
    qosOf (willTopicFlags q r) = q ∧ hasBit (willTopicFlags q r) flagsRetainBit = r := by
  have e : willTopicFlags q r = publishFlags false q r 0 := by simp [willTopicFlags, publishFlags, bit]
  obtain ⟨_, h2, h3, _⟩ := publishFlags_rt false r q 0 hq (by decide)
  exact e ▸ ⟨h2, h3⟩

theorem qosBits_rt (q : UInt8) (hq : q ≤ 3) : qosOf (qosBits q) = q := by
  have e : qosBits q = publishFlags false q false 0 := by simp [publishFlags, bit]
  exact e ▸ (publishFlags_rt false false q 0 hq (by decide)).2.1

theorem tit_and (tit : UInt8) (ht : tit ≤ 3) : tit &&& flagsTopicIDTypeBits = tit := by
  obtain ⟨i, rfl⟩ := u8_fin4 ht
  revert i; decide +kernel

theorem connectFlags_rt (w c : Bool) :
    hasBit (connectFlags w c) flagsWillBit = w ∧ hasBit (connectFlags w c) flagsCleanSessionBit = c := by
  revert w c; decide +kernel

/-- header the constructors produce for a variable part of `n` bytes -/
def hdrFor (t : UInt8) (n : Nat) : Header :=
  if n + 2 ≤ 255 then { pktLength := UInt16.ofNat (n + 2), pktType := t, long := false }
  else { pktLength := UInt16.ofNat (n + 4), pktType := t, long := true }

theorem setVarPartLength_ofNat (h : Header) (n : Nat) (hn : n ≤ 65000) :
    h.setVarPartLength (UInt16.ofNat n) = hdrFor h.pktType n := by
  have e2 : UInt16.ofNat n + shortHeaderLength = UInt16.ofNat (n + 2) := (UInt16.ofNat_add n 2).symm
  have e4 : UInt16.ofNat n + longHeaderLength = UInt16.ofNat (n + 4) := (UInt16.ofNat_add n 4).symm
  have hc : UInt16.ofNat (n + 2) ≤ 255 ↔ n + 2 ≤ 255 := UInt16.ofNat_le_iff (show n + 2 < 65536 by omega)
  unfold Header.setVarPartLength hdrFor
  rw [e2, e4]
  by_cases c : n + 2 ≤ 255
  · rw [if_pos c, if_pos (hc.mpr c)]
  · rw [if_neg c, if_neg (mt hc.mp c)]

theorem new_ofNat (t : UInt8) (n : Nat) (hn : n ≤ 65000) :
    Header.new t (UInt16.ofNat n) = hdrFor t n := setVarPartLength_ofNat _ n hn

theorem unpack_short (b t : UInt8) (body : Bytes) (hb : b ≠ longPacketFlag) :
    Header.unpack (b :: t :: body) = .ok { pktLength := b.toUInt16, pktType := t, long := false } := by
  show (if b = longPacketFlag then _ else _) = _
  rw [if_neg hb]; rfl

theorem unpack_long (a b t : UInt8) (body : Bytes) :
    Header.unpack (longPacketFlag :: a :: b :: t :: body) =
      .ok { pktLength := mk16 a b, pktType := t, long := true } := rfl

/-- The two header forms: a length byte other than 0x01, or 0x01 and a 16-bit length. -/
theorem hdrFor_cases (t : UInt8) (n : Nat) (hn : n ≤ 65000) :
    (∃ b : UInt8, b ≠ longPacketFlag ∧ b.toNat = n + 2 ∧ n + 2 ≤ 255 ∧
      hdrFor t n = { pktLength := b.toUInt16, pktType := t, long := false }) ∨
    (∃ L : UInt16, L.toNat = n + 4 ∧ 255 < n + 2 ∧
      hdrFor t n = { pktLength := L, pktType := t, long := true }) := by
  unfold hdrFor
  by_cases hc : n + 2 ≤ 255
  · have hlt : n + 2 < 256 := Nat.lt_succ_of_le hc
    have hb : (UInt8.ofNat (n + 2)).toNat = n + 2 := UInt8.toNat_ofNat_of_lt' hlt
    refine .inl ⟨.ofNat (n + 2), fun h => ?_, hb, hc, ?_⟩
    · rw [h, longPacketFlag_toNat] at hb; omega
    · rw [if_pos hc, UInt8.toUInt16_ofNat' hlt]
  · exact .inr ⟨_, UInt16.toNat_ofNat_of_lt' (show _ < 65536 by omega), Nat.lt_of_not_le hc, if_neg hc⟩

theorem hdrFor_unpack (t : UInt8) (n : Nat) (hn : n ≤ 65000) (body : Bytes) :
    Header.unpack ((hdrFor t n).packToBuffer ++ body) = .ok (hdrFor t n) := by
  rcases hdrFor_cases t n hn with ⟨b, hb, -, -, e⟩ | ⟨L, -, -, e⟩ <;> rw [e]
  · simpa [Header.packToBuffer] using unpack_short b t body hb
  · exact (unpack_long _ _ t body).trans (by rw [mk16_hi_lo])

theorem packToBuffer_length (h : Header) : h.packToBuffer.length ≤ 4 := by
  unfold Header.packToBuffer; split <;> simp [enc16]

theorem hdrFor_slice (t : UInt8) (n : Nat) (body : Bytes) :
    sliceFrom ((hdrFor t n).packToBuffer ++ body) (hdrFor t n).headerLength.toNat = .ok body := by
  unfold hdrFor; split <;> rfl

theorem hdrFor_type (t : UInt8) (n : Nat) : (hdrFor t n).pktType = t := by
  unfold hdrFor; split <;> rfl

theorem hdrFor_lengthField (t : UInt8) (n : Nat) (hn : n ≤ 65000) (body : Bytes) (hb : body.length = n) :
    lengthField ((hdrFor t n).packToBuffer ++ body) = ((hdrFor t n).packToBuffer ++ body).length ∧
    (usesShortForm ((hdrFor t n).packToBuffer ++ body) =
      decide (((hdrFor t n).packToBuffer ++ body).length ≤ 255)) := by
  rcases hdrFor_cases t n hn with ⟨b, hb1, hbn, hc, e⟩ | ⟨L, hL, hc, e⟩ <;> rw [e]
  · simp [Header.packToBuffer, lengthField, usesShortForm, hb1, hbn, hb, hc]
  · simp [Header.packToBuffer, lengthField, usesShortForm, enc16, mk16_hi_lo, hL, hb]; omega

theorem hdrFor_varPart (t : UInt8) (n : Nat) : (hdrFor t n).varPartLength = UInt16.ofNat n := by
  unfold hdrFor; split <;>
    exact (congrArg (· - _) (UInt16.ofNat_add ..)).trans (UInt16.add_sub_cancel ..)

theorem hdrFor_varPart_pos (t : UInt8) (n : Nat) (hn : n ≤ 65000) :
    ((hdrFor t n).varPartLength > 0) ↔ 0 < n := by
  rw [hdrFor_varPart]
  exact UInt16.ofNat_lt_iff_lt (a := 0) (by decide) (show n < 65536 by omega)

end Bisquitt
