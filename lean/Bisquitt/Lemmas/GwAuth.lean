/-
  C08 (all runs): with authentication enabled, as long as no AUTH datagram has come, every connect
  exchange is still waiting for it (`AllAwait`) and no MQTT CONNECT has been written (`mqConnects`).
  The frame (`Lemmas/GwFrame.lean`) is `f8Frame`: that invariant on the stored exchanges, and every output permitted
  but an MQTT CONNECT — so it has the connect sites only where authentication is enabled (`f8Conn`) and admits every
  client packet but AUTH (`f8Admits`); `Props/C08.lean` applies `Fr.run_init` to it.  `F8 g g'` is the relation that
  says the same of one call of a model function in C08's words (keeps the configuration, adds no MQTT CONNECT to the
  log, keeps `AllAwait`); `F8.of_fr` obtains it from the frame, and the model's functions have their `F8`
  statement one by one at the end of the file (corollaries; no theorem uses them).
-/
import Bisquitt.Lemmas.GwFrame

namespace Bisquitt.Gw
open Bisquitt Gw

def notConnect : MqPkt → Bool | .connect .. => false | _ => true

/-- a connect exchange, if this is one, still waits for AUTH; a broker-publish exchange never holds an
    MQTT CONNECT as the packet to resend -/
def kindOk8 (k : TxKind) : Prop :=
  (∀ st f, k = .connect st f → st = .awaitingAuth) ∧
  (∀ q st p snp n, k = .brokerPub q st (.mq p) snp n → notConnect p = true)
abbrev awaitAuthOnly (t : Tx) : Prop := kindOk8 t.kind
def AllAwait (g : Gw) : Prop := ∀ t ∈ g.txs, awaitAuthOnly t

def isMqConnect (o : Nat × Out) : Bool := match o.2 with | .mq (.connect ..) => true | _ => false
/-- the MQTT CONNECT packets written so far -/
def mqConnects (g : Gw) : List (Nat × Out) := g.outs.filter isMqConnect

theorem isMqConnect_report {o : Nat × Out} (h : isReport o.2 = true) : isMqConnect o = false :=
  isReport_elim (P := fun x => isMqConnect (o.1, x) = false) (fun _ => rfl) (fun _ => rfl) (fun _ => rfl) h

structure F8 (g g' : Gw) : Prop where
  cfg : g'.cfg = g.cfg
  keep : AllAwait g → AllAwait g' ∧ mqConnects g' = mqConnects g

def f8Frame (c : Cfg) : Frame := { cfg := c, K := fun _ => kindOk8, Mq := fun p => notConnect p = true }

theorem ok8_other {k : TxKind} (h1 : ∀ st f, k ≠ .connect st f) (h2 : ∀ q st d snp n, k ≠ .brokerPub q st d snp n) :
    kindOk8 k := ⟨fun st f e => absurd e (h1 st f), fun q st p snp n e => absurd e (h2 q st (.mq p) snp n)⟩
theorem ok8_bp {q : UInt8} {st : BpSt} {d : BpData} {snp : Option Pkt} {n : Nat}
    (hd : ∀ p, d = .mq p → notConnect p = true) : kindOk8 (.brokerPub q st d snp n) :=
  ⟨fun _ _ => nofun, fun _ _ p _ _ e => hd p (by cases e; rfl)⟩

theorem notConnect_of_ack {p : MqPkt} (h : IsAck p) : notConnect p = true := by cases h <;> rfl

theorem f8Sites (c : Cfg) : (f8Frame c).Sites :=
  { SnSites.top with
    kClientPub1 := fun _ => ok8_other (fun _ _ => nofun) fun _ _ _ _ _ => nofun
    kSubscribe := fun _ => ok8_other (fun _ _ => nofun) fun _ _ _ _ _ => nofun
    bpNew := fun _ _ _ _ => ok8_bp fun _ => nofun
    bpSn := fun _ _ _ _ _ => ok8_bp fun _ => nofun
    bpAck := fun _ _ ha _ => ok8_bp fun _ e => by cases e; exact notConnect_of_ack ha
    bpSnp := fun _ => trivial
    retrySn := fun _ _ => ⟨trivial, ok8_bp fun _ => nofun⟩
    retryMq := fun hK _ => ⟨.free (hK.2 _ _ _ _ _ rfl), ok8_bp fun _ e => by cases e; exact hK.2 _ _ _ _ _ rfl⟩
    mqAck := fun _ ha => .free (notConnect_of_ack ha)
    mqPingreq := .free rfl
    mqSubscribe := fun _ _ _ _ _ _ => .free rfl
    mqUnsubscribe := fun _ _ _ => .free rfl
    mqPubrel := fun _ => .free rfl
    willTopic := fun _ _ _ _ hK => nomatch hK.1 _ _ rfl
    willMsg := fun _ _ hK => nomatch hK.1 _ _ rfl }

theorem f8Conn (c : Cfg) (ha : c.auth = true) : (f8Frame c).ConnSites where
  new := fun _ _ _ _ _ => ⟨fun _ _ e => by cases e; rfl, fun _ _ _ _ _ => nofun⟩
  noAuth := fun hf => absurd (ha.symm.trans hf) nofun

/-- client packets other than AUTH -/
def notAuth : Pkt → Bool | .auth .. => false | _ => true

theorem f8Admits (c : Cfg) (p : Pkt) (hp : notAuth p = true) : (f8Frame c).Admits p where
  auth := fun _ _ _ e => by subst e; cases hp
  publish := fun _ _ _ _ _ _ _ _ _ _ _ => .free rfl
  mqDisconnect := fun _ => .free rfl
  toAdmitsSt := .of_true (fun _ => trivial) fun _ => trivial

theorem filter_isMqConnect {c : Cfg} {new : List (Nat × Out)} (h : ∀ o ∈ new, (f8Frame c).OutOk o.2) :
    new.filter isMqConnect = [] :=
  List.filter_eq_nil_iff.mpr fun o ho hc => by
    unfold isMqConnect at hc
    split at hc
    · rename_i heq
      have := h o ho
      rw [heq] at this
      exact nomatch this
    · cases hc

theorem F8.of_fr {n : Nat} {g g' : Gw} (hc : g'.cfg = g.cfg) (h : Fr (f8Frame g.cfg) n g g') : F8 g g' :=
  ⟨hc, fun hA => by
    obtain ⟨hI, new, e, hn, _⟩ := h ⟨rfl, trivial, trivial, fun _ _ => trivial, hA⟩
    exact ⟨hI.txs, by unfold mqConnects; rw [e, List.filter_append, filter_isMqConnect hn]; rfl⟩⟩

theorem awaiting_of {g : Gw} {t : Tx} {st : ConnSt} {f : ConnFields} (hA : AllAwait g) (h : g.connTx = some (t, st, f)) :
    st = .awaitingAuth := (hA t (connTx_spec h).1).1 st f (connTx_spec h).2

/-- what the walk shows for every frame, without the connect sites, it shows for `F8` (`n`: the budget may be a field of
    the frame, as `F.nSub`) -/
theorem F8.of_walk {n : Frame → Nat} {g g' : Gw} (h : ∀ F : Frame, F.Sites → Fr F (n F) g g') : F8 g g' :=
  .of_fr (h (.top g.cfg) (Frame.top_sites _)).cfg_eq (h _ (f8Sites _))

theorem F8.txs {g g' : Gw} (h : F8 g g') (hA : AllAwait g) : AllAwait g' := (h.keep hA).1
theorem F8.outs {g g' : Gw} (h : F8 g g') (hA : AllAwait g) : mqConnects g' = mqConnects g := (h.keep hA).2
theorem F8.refl (g : Gw) : F8 g g := ⟨rfl, fun h => ⟨h, rfl⟩⟩
theorem F8.trans {a b c : Gw} (h1 : F8 a b) (h2 : F8 b c) : F8 a c :=
  ⟨h2.cfg.trans h1.cfg, fun h => ⟨h2.txs (h1.txs h), (h2.outs (h1.txs h)).trans (h1.outs h)⟩⟩
theorem F8.of_eq {g g' : Gw} (hc : g'.cfg = g.cfg) (ho : g'.outs = g.outs) (ht : g'.txs = g.txs) : F8 g g' :=
  ⟨hc, fun h => ⟨by unfold AllAwait; rw [ht]; exact h, by unfold mqConnects; rw [ho]⟩⟩

/-! ### `F8` of one call of each model function (from `f8Frame`) -/

theorem F8.emit (g : Gw) (o : Out) (h : isMqConnect (g.now, o) = false) : F8 g (g.emit o) :=
  ⟨rfl, fun hA => ⟨hA, List.filter_cons_of_neg (ne_true_of_eq_false h)⟩⟩
theorem F8.snSend (g : Gw) (p : Pkt) (tx : Option Nat) : F8 g (g.snSend p tx) :=
  .of_fr (snSend_cfg g p tx) (Fr.snSend g p tx trivial)
theorem F8.snSendNow (g : Gw) (p : Pkt) : F8 g (g.snSendNow p) := F8.emit g _ rfl
theorem F8.mqttSend (g : Gw) (p : MqPkt) (h : notConnect p = true) : F8 g (g.mqttSend p) :=
  .of_fr rfl (Fr.mqttSend (n := 0) g p (.free h))
theorem F8.setNow (g : Gw) (t : Nat) : F8 g (g.setNow t) := F8.of_eq rfl rfl rfl
theorem F8.fail (g : Gw) (c : EndCls) : F8 g (g.fail c) := .of_walk fun _ _ => Fr.fail g c
theorem F8.finishTx (g : Gw) (id : Nat) : F8 g (g.finishTx id) := .of_walk fun _ _ => Fr.finishTx g id
theorem F8.cancelSleepPinger (g : Gw) : F8 g g.cancelSleepPinger := F8.of_eq rfl rfl rfl
theorem F8.startSleepPinger (g : Gw) (d : UInt16) : F8 g (g.startSleepPinger d) := F8.of_eq rfl rfl rfl
theorem F8.armSleepPinger (g : Gw) (d : UInt16) : F8 g (g.armSleepPinger d) := .of_walk fun _ _ => Fr.armSleepPinger g d
theorem F8.pingBroker (g : Gw) : F8 g g.pingBroker := .of_walk fun _ S => Fr.pingBroker S g
theorem F8.keepBrokerAlive (g : Gw) : F8 g g.keepBrokerAlive := .of_walk fun _ S => Fr.keepBrokerAlive S g
theorem F8.proceedSN (g : Gw) (id : Nat) (s : BpSt) (p : Pkt) : F8 g (g.proceedSN id s p) :=
  .of_fr (proceedSN_cfg g id s p) (Fr.proceedSN g id s p trivial fun _ => ok8_bp fun _ => nofun)
theorem F8.proceedMQ (g : Gw) (id : Nat) (s : BpSt) (p : MqPkt) (h : notConnect p = true) : F8 g (g.proceedMQ id s p) :=
  .of_fr (proceedMQ_cfg g id s p) (Fr.proceedMQ g id s p (.free h) fun _ => ok8_bp fun _ e => by cases e; exact h)
theorem F8.bpRegack (g : Gw) (t : Tx) (q : UInt8) (s : BpSt) (d : BpData) (snp : Option Pkt) (rc : UInt8) :
    F8 g (g.bpRegack t q s d snp rc) :=
  .of_fr (bpRegack_cfg g t q s d snp rc)
    (Fr.bpRegack (f8Sites _) g t q s d snp rc fun _ _ _ _ _ => ⟨0, ok8_bp fun _ => nofun⟩)
theorem F8.handleClientPublish (g : Gw) (dup : Bool) (q : UInt8) (r : Bool) (tit : UInt8) (tid mid : UInt16) (d : Bytes) :
    F8 g (g.handleClientPublish dup q r tit tid mid d) :=
  .of_fr (handleClientPublish_cfg g dup q r tit tid mid d)
    (Fr.handleClientPublish (f8Sites _) g dup q r tit tid mid d fun _ _ _ => .free rfl)
theorem F8.handleSubscribe (g : Gw) (dup : Bool) (q tit : UInt8) (mid tid : UInt16) (n : Bytes) :
    F8 g (g.handleSubscribe dup q tit mid tid n) := .of_walk fun _ S => Fr.handleSubscribe S g dup q tit mid tid n
theorem F8.handleUnsubscribe (g : Gw) (tit : UInt8) (mid tid : UInt16) (n : Bytes) : F8 g (g.handleUnsubscribe tit mid tid n) :=
  .of_walk fun _ S => Fr.handleUnsubscribe S g tit mid tid n
theorem F8.handleRegister (g : Gw) (mid : UInt16) (n : Bytes) : F8 g (g.handleRegister mid n) :=
  .of_walk fun _ S => Fr.handleRegister S g mid n
theorem F8.handleBrokerPublish (g : Gw) (dup : Bool) (q : UInt8) (r : Bool) (mid : UInt16) (tp pl : Bytes) :
    F8 g (g.handleBrokerPublish dup q r mid tp pl) := .of_walk fun _ S => Fr.handleBrokerPublish S g dup q r mid tp pl
theorem F8.handleConnect (g : Gw) (will clean : Bool) (dur : UInt16) (cid : Bytes) (ha : g.cfg.auth = true) :
    F8 g (g.handleConnect will clean dur cid) :=
  .of_fr (handleConnect_cfg g will clean dur cid)
    (Fr.handleConnect SnSites.top (f8Conn _ ha) g will clean dur cid fun _ => trivial)
theorem F8.connWillTopic (g : Gw) (t : Tx) (st : ConnSt) (f : ConnFields) (q : UInt8) (r : Bool) (tp : Bytes)
    (hs : st = .awaitingAuth) : F8 g (g.connWillTopic t st f q r tp) :=
  .of_walk fun _ S => Fr.connWillTopic S g t st f q r tp fun e => nomatch hs.symm.trans e
theorem F8.connWillMsg (g : Gw) (t : Tx) (st : ConnSt) (f : ConnFields) (m : Bytes)
    (hs : st = .awaitingAuth) : F8 g (g.connWillMsg t st f m) :=
  .of_walk fun _ S => Fr.connWillMsg S g t st f m fun e => nomatch hs.symm.trans e
theorem F8.connConnack (g : Gw) (t : Tx) (st : ConnSt) (rc : UInt8) (hs : st = .awaitingAuth) : F8 g (g.connConnack t st rc) :=
  .of_fr (connConnack_cfg g t st rc) (Fr.connConnack SnSites.top g t st rc fun _ _ => trivial)
theorem F8.handleDisconnect (g : Gw) (d : UInt16) : F8 g (g.handleDisconnect d) :=
  .of_fr (handleDisconnect_cfg g d)
    (Fr.handleDisconnect (f8Sites _) g d (fun _ => ⟨.free rfl, trivial⟩) fun _ => ⟨trivial, trivial⟩)
theorem F8.handlePingreq (g : Gw) : F8 g g.handlePingreq :=
  .of_fr (handlePingreq_cfg g) (Fr.handlePingreq (f8Sites _) g fun _ _ => trivial)
theorem F8.retryExpire (g : Gw) (t : Tx) (ht : t ∈ g.txs) : F8 g (g.retryExpire t) :=
  .of_walk fun _ S => Fr.retryExpire S g t ht
theorem F8.fireDue (g : Gw) (d : Due) : F8 g (g.fireDue d) := .of_walk fun _ S => Fr.fireDue S g d
theorem F8.advance : ∀ (fuel : Nat) (g : Gw) (t : Nat), F8 g (advance fuel g t) :=
  fun fuel g t => .of_walk fun _ S => Fr.advance S t fuel g
theorem F8.sample (g : Gw) : F8 g g.sample := .of_walk fun _ _ => Fr.sample g

end Bisquitt.Gw
