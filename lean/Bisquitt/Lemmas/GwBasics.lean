/-
  What the leaves of the gateway model change, as equations between whole states: the allocator and
  `registrationTopicId` (the ID sequence and the reservations), the two senders (queue and log), the sleep pinger
  and the two handlers of a sleep cycle (`handleSleep_eq`, `handlePingreq_asleep`), the session end
  (`finishSession_eq`), `sample` (reports appended to the log); which functions leave the log and the clock alone;
  what is found in the store of exchanges is stored there (`getTx_mem`, `mem_setTx`, `connTx_spec`, …); and small facts
  about what the handlers are given (`PktIn`, `legal_of_active`, `findRegisteredId_sound`, `brokerTopicId_tit`, `mqQos_le`).
-/
import Bisquitt.Model.Gateway
import Bisquitt.Lemmas.Assoc

namespace Bisquitt.Gw
open Bisquitt Gw

/-- the topic tables: the registry, the gateway's own registrations (`registrationTopicIDs`), the allocator -/
structure TopicTables where
  registered : List (UInt16 × Bytes)
  regIds : List (Bytes × UInt16)
  idseq : IdSeq
  exhausted : Bool

def Gw.topicTables (g : Gw) : TopicTables := ⟨g.registered, g.regIds, g.idseq, g.exhausted⟩

theorem newTopicId_eq (g : Gw) : ∃ s e, g.newTopicId.2 = { g with idseq := s, exhausted := e } := by
  unfold Gw.newTopicId
  by_cases he : g.exhausted = true
  · rw [if_pos he]; exact ⟨g.idseq, g.exhausted, rfl⟩
  · rw [if_neg he]
    generalize g.idseq.step = x
    obtain ⟨⟨id, ov⟩, s⟩ := x
    by_cases ho : ov = true
    · exact ⟨s, true, by simp only [if_pos ho]⟩
    · simp only [if_neg ho]
      generalize newTopicIdLoop g _ id s = r
      obtain ⟨_ | r, s'⟩ := r
      · exact ⟨s', true, rfl⟩
      · exact ⟨s', g.exhausted, rfl⟩

theorem registrationTopicId_cases {g g' : Gw} {topic : Bytes} {r : Option UInt16}
    (h : g.registrationTopicId topic = (r, g')) :
    (∃ id, g.regIds.lookup topic = some id ∧ r = some id ∧ g' = g) ∨
    (g.regIds.lookup topic = none ∧
      ((∃ id g1, g.newTopicId = (some id, g1) ∧ r = some id ∧ g' = g1.storeRegId topic id) ∨
       (g.newTopicId = (none, g') ∧ r = none))) := by
  unfold registrationTopicId at h
  split at h
  · rename_i id hl; cases h; exact .inl ⟨id, hl, rfl, rfl⟩
  · rename_i hl
    split at h <;> rename_i hn <;> cases h
    · exact .inr ⟨hl, .inl ⟨_, _, hn, rfl, rfl⟩⟩
    · exact .inr ⟨hl, .inr ⟨hn, rfl⟩⟩

theorem registrationTopicId_eq (g : Gw) (topic : Bytes) :
    ∃ s e r, (g.registrationTopicId topic).2 = { g with idseq := s, exhausted := e, regIds := r } := by
  obtain ⟨s, e, hn⟩ := newTopicId_eq g
  rcases registrationTopicId_cases (g := g) (topic := topic) (r := (g.registrationTopicId topic).1)
    (g' := (g.registrationTopicId topic).2) rfl with ⟨_, _, _, h⟩ | ⟨_, ⟨_, g1, h1, _, h⟩ | ⟨h1, _⟩⟩
  · exact ⟨g.idseq, g.exhausted, g.regIds, h⟩
  · rw [h1] at hn
    exact ⟨s, e, _, h.trans (congrArg (Gw.storeRegId · topic _) hn)⟩
  · rw [h1] at hn
    exact ⟨s, e, _, hn⟩

theorem registrationTopicId_reserved {g g' : Gw} {topic : Bytes} {id : UInt16}
    (h : g.registrationTopicId topic = (some id, g')) : g'.regIds.lookup topic = some id := by
  rcases registrationTopicId_cases h with ⟨_, hl, e, rfl⟩ | ⟨_, ⟨_, _, _, e, rfl⟩ | ⟨_, e⟩⟩ <;> cases e
  · exact hl
  · exact List.lookup_cons_self

theorem registrationTopicId_keeps {g g' : Gw} {topic : Bytes} {r : Option UInt16}
    (h : g.registrationTopicId topic = (r, g')) {n : Bytes} {i : UInt16} (hl : g.regIds.lookup n = some i) :
    g'.regIds.lookup n = some i := by
  obtain ⟨s, e, h'⟩ := newTopicId_eq g
  rcases registrationTopicId_cases h with ⟨_, _, _, rfl⟩ | ⟨hnone, ⟨id, g1, hn, _, rfl⟩ | ⟨hn, _⟩⟩
  · exact hl
  · rw [hn] at h'; subst h'
    exact (lookup_cons_fresh id hnone n i).mpr (.inl hl)
  · rw [hn] at h'; subst h'
    exact hl

/-- what the decoder guarantees about a packet the handler sees: the QoS field has two bits
    (`Lemmas/DecodeIn.lean`: `decode_in`) -/
def PktIn : Pkt → Prop
  | .publish _ q _ _ _ _ _ => q ≤ 3
  | _ => True

theorem findRegisteredId_sound {g : Gw} {name : Bytes} {id : UInt16} (h : g.findRegisteredId name = some id) :
    g.registered.lookup id = some name := by
  simpa using (List.mem_filter.mp (List.mem_of_mem_head? h)).2

theorem legal_of_active (g : Gw) (p : Pkt) (h : g.st = .active) : (!g.packetLegal p) = false := by
  unfold packetLegal; simp [h]

theorem runFinally_eq (g : Gw) (t : Tx) : ∃ a b c, g.runFinally t = { g with byId := a, byIdB := b, connectTx := c } := by
  unfold runFinally
  split
  · exact ⟨_, g.byIdB, g.connectTx, (apply_ite (fun a => ({ g with byId := a } : Gw)) _ _ _).symm⟩
  · exact ⟨g.byId, _, g.connectTx, (apply_ite (fun a => ({ g with byIdB := a } : Gw)) _ _ _).symm⟩
  · exact ⟨g.byId, g.byIdB, none, rfl⟩

theorem finishTx_eq (g : Gw) (id : Nat) :
    ∃ x a b c, g.finishTx id = { g with txs := x, byId := a, byIdB := b, connectTx := c } := by
  unfold finishTx
  split
  · rename_i t _
    split
    · exact ⟨g.txs, g.byId, g.byIdB, g.connectTx, rfl⟩
    · obtain ⟨a, b, c, h⟩ := runFinally_eq (g.setTx { t with done := true, timer := none }) t
      exact ⟨_, a, b, c, h⟩
  · exact ⟨g.txs, g.byId, g.byIdB, g.connectTx, rfl⟩

@[simp] theorem setTx_outs (g : Gw) (t : Tx) : (g.setTx t).outs = g.outs := rfl
@[simp] theorem finishTx_outs (g : Gw) (id : Nat) : (g.finishTx id).outs = g.outs := by
  obtain ⟨x, a, b, c, h⟩ := finishTx_eq g id; rw [h]
@[simp] theorem finishTx_now (g : Gw) (id : Nat) : (g.finishTx id).now = g.now := by
  obtain ⟨x, a, b, c, h⟩ := finishTx_eq g id; rw [h]
@[simp] theorem fail_outs (g : Gw) (c : EndCls) : (g.fail c).outs = g.outs := by
  unfold fail; split <;> rfl
theorem fail_alive (g : Gw) (c : EndCls) : (g.fail c).alive = false := by
  unfold fail alive; split <;> simp_all
@[simp] theorem newTx_outs (g : Gw) (k : TxKind) (key : TxKey) (tm : Option Nat) : (g.newTx k key tm).2.outs = g.outs := rfl
@[simp] theorem storeById_outs (g : Gw) (m : UInt16) (id : Nat) : (g.storeById m id).outs = g.outs := rfl
@[simp] theorem storeClientPub1_outs (g : Gw) (q : UInt8) (tid mid : UInt16) :
    (g.storeClientPub1 q tid mid).outs = g.outs := by
  unfold storeClientPub1; split <;> rfl
@[simp] theorem storeClientPub1_now (g : Gw) (q : UInt8) (tid mid : UInt16) :
    (g.storeClientPub1 q tid mid).now = g.now := by
  unfold storeClientPub1; split <;> rfl
@[simp] theorem storeRegistered_outs (g : Gw) (id : UInt16) (n : Bytes) : (g.storeRegistered id n).outs = g.outs := rfl
@[simp] theorem startSleepPinger_outs (g : Gw) (d : UInt16) : (g.startSleepPinger d).outs = g.outs := rfl
@[simp] theorem newTopicId_outs (g : Gw) : g.newTopicId.2.outs = g.outs := by
  obtain ⟨s, e, h⟩ := newTopicId_eq g; rw [h]
@[simp] theorem registrationTopicId_outs (g : Gw) (topic : Bytes) : (g.registrationTopicId topic).2.outs = g.outs := by
  obtain ⟨s, e, r, h⟩ := registrationTopicId_eq g topic; rw [h]

theorem snSend_eq (g : Gw) (p : Pkt) (tx : Option Nat) : ∃ b new, (∀ o ∈ new, ∃ bs, o.2 = Out.sn bs) ∧
    g.snSend p tx = { g with buffer := b, outs := new ++ g.outs } := by
  unfold snSend
  split
  · exact ⟨_, [], (fun _ h => nomatch h), rfl⟩
  · exact ⟨_, [(g.now, .sn (encode p))], fun _ h => ⟨encode p, by rw [List.mem_singleton.mp h]⟩, rfl⟩

theorem flushBuffer_eq (g : Gw) : ∃ new, (∀ o ∈ new, ∃ bs, o.2 = Out.sn bs) ∧
    g.flushBuffer = { g with buffer := [], outs := new ++ g.outs } := by
  have h : ∀ (its : List BufItem) (x : Gw), ∃ b new, (∀ o ∈ new, ∃ bs, o.2 = Out.sn bs) ∧
      its.foldl (fun acc it => acc.snSend it.pkt it.tx) x = { x with buffer := b, outs := new ++ x.outs } := by
    intro its
    induction its with
    | nil => exact fun x => ⟨_, [], (fun _ h => nomatch h), rfl⟩
    | cons it rest ih =>
      intro x
      obtain ⟨b, n, hn, e⟩ := snSend_eq x it.pkt it.tx
      obtain ⟨b', n', hn', e'⟩ := ih (x.snSend it.pkt it.tx)
      exact ⟨b', n' ++ n, fun o ho => (List.mem_append.mp ho).elim (hn' o) (hn o), by
        rw [List.foldl_cons, e', e, List.append_assoc]⟩
  obtain ⟨b, n, hn, e⟩ := h g.buffer { g with buffer := [] }
  exact ⟨n, hn, by unfold flushBuffer; rw [e]⟩

@[simp] theorem snSend_txs (g : Gw) (p : Pkt) (tx : Option Nat) : (g.snSend p tx).txs = g.txs := by
  obtain ⟨b, n, _, h⟩ := snSend_eq g p tx; rw [h]
@[simp] theorem snSend_now (g : Gw) (p : Pkt) (tx : Option Nat) : (g.snSend p tx).now = g.now := by
  obtain ⟨b, n, _, h⟩ := snSend_eq g p tx; rw [h]
@[simp] theorem flushBuffer_now (g : Gw) : g.flushBuffer.now = g.now := by
  obtain ⟨n, _, h⟩ := flushBuffer_eq g; rw [h]

theorem snSend_awake (g : Gw) (p : Pkt) (tx : Option Nat) (h : g.st ≠ .asleep) : g.snSend p tx = g.emit (.sn (encode p)) :=
  if_neg h

theorem foldl_snSend_awake (its : List BufItem) : ∀ g : Gw, g.st ≠ .asleep →
    its.foldl (fun acc it => acc.snSend it.pkt it.tx) g =
      { g with outs := (its.reverse.map fun it => (g.now, Out.sn (encode it.pkt))) ++ g.outs } := by
  induction its with
  | nil => exact fun g _ => rfl
  | cons it rest ih =>
    intro g h
    rw [List.foldl_cons, snSend_awake g _ _ h, ih (g.emit _) h, List.reverse_cons, List.map_append, List.append_assoc]
    rfl

/-- oldest first: the log is newest first -/
theorem flushBuffer_awake (g : Gw) (h : g.st ≠ .asleep) : g.flushBuffer =
    { g with buffer := [], outs := (g.buffer.reverse.map fun it => (g.now, Out.sn (encode it.pkt))) ++ g.outs } := by
  unfold flushBuffer
  rw [foldl_snSend_awake g.buffer { g with buffer := [] } h]

theorem armSleepPinger_eq (g : Gw) (d : UInt16) : g.armSleepPinger d = { g with pingers :=
    if g.keepAlive = 0 then []
    else [{ next := g.now + g.keepAlive.toNat * 1000, cancelAt := g.now + d.toNat * 1000,
            period := g.keepAlive.toNat * 1000 }] } :=
  (apply_ite (fun p => ({ g with pingers := p } : Gw)) _ _ _).symm

theorem clearBufferUnlessAsleep_eq (g : Gw) :
    g.clearBufferUnlessAsleep = { g with buffer := if g.st ≠ .asleep then [] else g.buffer } :=
  (apply_ite (fun b => ({ g with buffer := b } : Gw)) _ _ _).symm

theorem handleSleep_eq (g : Gw) (d : UInt16) : g.handleSleep d =
    { g with sleepDur := d, st := .asleep, buffer := if g.st ≠ .asleep then [] else g.buffer,
             outs := (g.now, .sn (encode (.disconnect 0))) :: g.outs,
             pingers := if g.keepAlive = 0 then []
               else [{ next := g.now + g.keepAlive.toNat * 1000, cancelAt := g.now + d.toNat * 1000,
                       period := g.keepAlive.toNat * 1000 }] } := by
  unfold handleSleep
  rw [armSleepPinger_eq, clearBufferUnlessAsleep_eq]
  rfl

theorem handlePingreq_asleep (g : Gw) (h : g.st = .asleep) : g.handlePingreq =
    { g with st := .asleep, buffer := [],
             outs := (g.now, .sn (encode .pingresp)) ::
               ((g.buffer.reverse.map fun it => (g.now, Out.sn (encode it.pkt))) ++ g.outs),
             pingers := if g.keepAlive = 0 then []
               else [{ next := g.now + g.keepAlive.toNat * 1000, cancelAt := g.now + g.sleepDur.toNat * 1000,
                       period := g.keepAlive.toNat * 1000 }] } := by
  have e : (g.setSt .awake).flushBuffer.snSend .pingresp =
      { g with st := .awake, buffer := [], outs := (g.now, .sn (encode .pingresp)) ::
                 ((g.buffer.reverse.map fun it => (g.now, Out.sn (encode it.pkt))) ++ g.outs) } := by
    rw [flushBuffer_awake _ (nofun : (g.setSt .awake).st ≠ .asleep)]; rfl
  unfold handlePingreq
  rw [if_pos h, e, armSleepPinger_eq]
  rfl

theorem shutdownDisconnect_eq (g : Gw) : g.shutdownDisconnect = { g with outs :=
    (if g.st = .active ∨ g.st = .awake then [(g.now, .sn (encode (.disconnect 0)))] else []) ++ g.outs } := by
  unfold shutdownDisconnect; split <;> rfl

theorem finishSession_eq (g : Gw) (tc : Nat) (hc : g.cancelledAt = some tc) (he : g.endedEmitted = false) :
    g.finishSession =
      { g with now := tc, endedEmitted := true, pingers := [], txs := g.txs.map fun t => { t with timer := none },
               outs := (tc, .mqClose) :: (tc, .ended g.endCls) ::
                 ((if g.st = .active ∨ g.st = .awake then [(tc, .sn (encode (.disconnect 0)))] else []) ++ g.outs) } := by
  have e : g.finishSession = (g.setNow tc).shutdownDisconnect.emitEnd.stopTimers := by
    unfold finishSession; rw [hc]; exact if_neg (by rw [he]; nofun)
  rw [e, shutdownDisconnect_eq]
  rfl

theorem getTx_mem {g : Gw} {id : Nat} {t : Tx} (h : g.getTx id = some t) : t ∈ g.txs := List.mem_of_find?_eq_some h

theorem mem_setTx {g : Gw} {t' x : Tx} (h : x ∈ (g.setTx t').txs) : x = t' ∨ x ∈ g.txs := by
  obtain ⟨y, hy, rfl⟩ := List.mem_map.mp h
  split
  · exact .inl rfl
  · exact .inr hy

theorem lookupByIdB_mem {g : Gw} {mid : UInt16} {t : Tx} (h : g.lookupByIdB mid = some t) : t ∈ g.txs :=
  (Option.bind_eq_some_iff.mp h).elim fun _ hg => getTx_mem hg.2

theorem lookupById_mem {g : Gw} {mid : UInt16} {t : Tx} (h : g.lookupById mid = some t) : t ∈ g.txs :=
  (Option.bind_eq_some_iff.mp h).elim fun _ hg => getTx_mem hg.2

theorem brokerTopicId_tit {g : Gw} {topic : Bytes} {tid : UInt16} {tit : UInt8}
    (h : g.brokerTopicId topic = some (tid, tit)) : tit ≤ 2 := by
  unfold Gw.brokerTopicId at h
  split at h
  · cases h; decide
  · split at h
    · cases h; decide
    · split at h
      · cases h; decide
      · cases h

theorem connTx_spec {g : Gw} {t : Tx} {st : ConnSt} {f : ConnFields} (h : g.connTx = some (t, st, f)) :
    t ∈ g.txs ∧ t.kind = .connect st f := by
  unfold Gw.connTx at h
  split at h
  · rename_i t' ht
    split at h
    · rename_i hk
      cases h
      obtain ⟨_, _, hg⟩ := Option.bind_eq_some_iff.mp ht
      exact ⟨getTx_mem hg, hk⟩
    · cases h
  · cases h

/-- a new exchange whose record is replaced at once: the kind it was created with does not matter.  (No
    uniqueness of transaction ids is needed: `setTx` rewrites every transaction with that id, the new one
    included.) -/
theorem newTx_setTx_kind (g : Gw) (k k' : TxKind) (key : TxKey) (tm : Option Nat) (t' : Tx) (hid : t'.id = g.nextTx) :
    (g.newTx k key tm).2.setTx t' = (g.newTx k' key tm).2.setTx t' := by
  unfold Gw.newTx Gw.setTx
  simp only [List.map_append, List.map_cons, hid, beq_self_eq_true, if_true]

theorem mqQos_le {q : UInt8} (h : q ≤ 3) : mqQos q ≤ 2 := by
  unfold mqQos
  split
  · decide
  · rename_i hq
    exact UInt8.le_iff_toNat_le.mpr (Nat.le_of_lt_succ (Nat.lt_of_le_of_ne (UInt8.le_iff_toNat_le.mp h)
      fun e => hq (UInt8.toNat_inj.mp e)))

theorem setDup_register {p : Pkt} {id m : UInt16} {name : Bytes} (h : setDup p = .register id m name) : p = .register id m name := by
  unfold setDup at h
  split at h
  · cases h
  · cases h
  · exact h

def isReport : Out → Bool
  | .state _ | .reg _ | .buf _ => true
  | _ => false

/-- a report is one of the three (by `cases`: a `match` on the three patterns makes Lean refute the other four
    constructors by unification, which is slow to check) -/
theorem isReport_elim {P : Out → Prop} (hs : ∀ s, P (.state s)) (hr : ∀ r, P (.reg r)) (hb : ∀ b, P (.buf b))
    {o : Out} (h : isReport o = true) : P o := by
  cases o with
  | state s => exact hs s
  | reg r => exact hr r
  | buf b => exact hb b
  | sn _ | mq _ | mqClose | ended _ => cases h

/-- one sampler, `S v new` being the state that remembers `v` as reported and has written `new`: where the value
    reported last (`b`) is the current one (`a`) nothing is written, else the report `x` -/
theorem sampler_eq {α : Type} [DecidableEq α] (S : α → List (Nat × Out) → Gw) (a b : α) (x : Nat × Out)
    (hx : isReport x.2 = true) : ∃ new, (∀ o ∈ new, isReport o.2 = true) ∧
      (if a ≠ b then S a [x] else S b []) = S a new :=
  if h : a = b then ⟨[], (fun _ h => nomatch h), by rw [if_neg (not_not_intro h), h]⟩
  else ⟨[x], fun _ ho => by rw [List.mem_singleton.mp ho]; exact hx, if_pos h⟩

theorem sample_eq (g : Gw) : ∃ new : List (Nat × Out), (∀ o ∈ new, isReport o.2 = true) ∧
    g.sample = { g with sampledState := g.st, sampledReg := g.liveRegistry, sampledBuf := g.bufferBytes,
                        outs := new ++ g.outs } := by
  -- each sampler is applied to the state written out: rewriting `g.sampleState.sampleReg` inside the equation of
  -- `sampleBuf` would copy the whole record once per field, and again for `sampleState`
  obtain ⟨n1, hn1, e1⟩ := sampler_eq (fun s new => ({ g with sampledState := s, outs := new ++ g.outs } : Gw))
    g.st g.sampledState (g.now, .state g.st) rfl
  obtain ⟨n2, hn2, e2⟩ := sampler_eq
    (fun r new => ({ g with sampledState := g.st, sampledReg := r, outs := new ++ (n1 ++ g.outs) } : Gw))
    g.liveRegistry g.sampledReg (g.now, .reg g.liveRegistry) rfl
  obtain ⟨n3, hn3, e3⟩ := sampler_eq
    (fun b new => ({ g with sampledState := g.st, sampledReg := g.liveRegistry, sampledBuf := b,
                            outs := new ++ (n2 ++ (n1 ++ g.outs)) } : Gw))
    g.bufferBytes g.sampledBuf (g.now, .buf g.bufferBytes) rfl
  refine ⟨n3 ++ (n2 ++ n1), fun o ho => ?_, ?_⟩
  · rcases List.mem_append.mp ho with h | h
    · exact hn3 o h
    · exact (List.mem_append.mp h).elim (hn2 o) (hn1 o)
  · rw [List.append_assoc, List.append_assoc]
    exact (congrArg (·.sampleReg.sampleBuf) e1).trans ((congrArg (·.sampleBuf) e2).trans e3)

end Bisquitt.Gw
