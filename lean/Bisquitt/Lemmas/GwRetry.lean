/-
  C16 (all runs, gateway half): the retry counter of a broker-publish exchange never exceeds
  RetryCount — `AllB g`: every stored exchange `brokerPub q st data snp n` has `n ≤ cfg.retryCount`.  The frame
  (`Lemmas/GwFrame.lean`) is `fbFrame`: that invariant, nothing asked of the outputs; `Props/C16.lean` applies
  `Fr.run_init` to it.  `FB g g'` is the relation that says the same of one call of a model function (keeps the
  configuration and `AllB`), obtained from the frame by `FB.of_fr`.  With `c16_retry_resends` (a retry-timer
  expiry with budget left sends exactly one copy and counts it) and `c16_retry_gives_up` (budget used up: nothing
  is sent, the exchange ends) this is "at most RetryCount retransmissions of any one step" for every run.
-/
import Bisquitt.Lemmas.GwFrame

namespace Bisquitt.Gw
open Bisquitt Gw

def kindOkB (cfg : Cfg) (k : TxKind) : Prop := ∀ q st d snp n, k = .brokerPub q st d snp n → n ≤ cfg.retryCount
def AllB (g : Gw) : Prop := ∀ t ∈ g.txs, kindOkB g.cfg t.kind

structure FB (g g' : Gw) : Prop where
  cfg : g'.cfg = g.cfg
  keep : AllB g → AllB g'

def fbFrame (c : Cfg) : Frame := { cfg := c, K := fun _ => kindOkB c }

theorem okb_bp {cfg : Cfg} {q : UInt8} {st : BpSt} {d : BpData} {snp : Option Pkt} {n : Nat} (hn : n ≤ cfg.retryCount) :
    kindOkB cfg (.brokerPub q st d snp n) := fun _ _ _ _ _ e => by cases e; exact hn

theorem okb_other {cfg : Cfg} {k : TxKind} (h : ∀ q st d snp n, k ≠ .brokerPub q st d snp n) : kindOkB cfg k :=
  fun q st d snp n e => absurd e (h q st d snp n)
theorem okb_connect (cfg : Cfg) (st : ConnSt) (f : ConnFields) : kindOkB cfg (.connect st f) := okb_other fun _ _ _ _ _ => nofun

theorem fbSites (c : Cfg) : (fbFrame c).Sites :=
  { SnSites.top with
    kClientPub1 := fun _ => okb_other fun _ _ _ _ _ => nofun, kSubscribe := fun _ => okb_other fun _ _ _ _ _ => nofun,
    bpNew := fun _ _ _ _ => okb_bp (Nat.zero_le _), bpSn := fun _ _ _ _ _ => okb_bp (Nat.zero_le _),
    bpAck := fun _ _ _ _ => okb_bp (Nat.zero_le _), bpSnp := fun _ => trivial,
    retrySn := fun _ hn => ⟨trivial, okb_bp hn⟩, retryMq := fun _ hn => ⟨.free trivial, okb_bp hn⟩,
    mqAck := fun _ _ => .free trivial, mqPingreq := .free trivial, mqSubscribe := fun _ _ _ _ _ _ => .free trivial,
    mqUnsubscribe := fun _ _ _ => .free trivial, mqPubrel := fun _ => .free trivial,
    willTopic := fun _ _ _ _ _ _ => okb_connect c _ _, willMsg := fun _ _ _ => ⟨okb_connect c _ _, .free trivial⟩ }

theorem fbAuthd (c : Cfg) (R : List (Bytes × UInt16)) (f : ConnFields) : (fbFrame c).Authd R f :=
  ⟨fun _ => okb_connect c _ _, fun _ => ⟨okb_connect c _ _, .free trivial⟩⟩

theorem fbConn (c : Cfg) : (fbFrame c).ConnSites := .of_authd (fun _ _ => okb_connect c _ _) (fbAuthd c)

theorem fbAdmits (c : Cfg) (p : Pkt) : (fbFrame c).Admits p :=
  ⟨.of_authd (fbAuthd c) (fun _ _ _ _ _ _ => .free trivial) (.free trivial), .of_true (fun _ => trivial) fun _ => trivial⟩

theorem FB.of_fr {n : Nat} {g g' : Gw} (hc : g'.cfg = g.cfg) (h : Fr (fbFrame g.cfg) n g g') : FB g g' :=
  ⟨hc, fun hB t ht => hc ▸ (h ⟨rfl, trivial, trivial, fun _ _ => trivial, hB⟩).1.txs t ht⟩

theorem FB.of_walk {n : Frame → Nat} {g g' : Gw} (h : ∀ F : Frame, F.Sites → F.ConnSites → Fr F (n F) g g') : FB g g' :=
  .of_fr (h (.top g.cfg) (Frame.top_sites _) (Frame.top_conn _)).cfg_eq (h _ (fbSites _) (fbConn _))

theorem FB.refl (g : Gw) : FB g g := ⟨rfl, fun h => h⟩
theorem FB.trans {a b c : Gw} (h1 : FB a b) (h2 : FB b c) : FB a c := ⟨h2.cfg.trans h1.cfg, fun h => h2.keep (h1.keep h)⟩
theorem FB.of_eq {g g' : Gw} (hc : g'.cfg = g.cfg) (ho : g'.outs = g.outs) (ht : g'.txs = g.txs) : FB g g' :=
  ⟨hc, fun h => by unfold AllB; rw [ht, hc]; exact h⟩

/-! ### `FB` of one call of each model function (from `fbFrame`) -/

theorem FB.emit (g : Gw) (o : Out) : FB g (g.emit o) := ⟨rfl, fun h => h⟩
theorem FB.snSend (g : Gw) (p : Pkt) (tx : Option Nat) : FB g (g.snSend p tx) :=
  .of_fr (snSend_cfg g p tx) (Fr.snSend g p tx trivial)
theorem FB.snSendNow (g : Gw) (p : Pkt) : FB g (g.snSendNow p) := ⟨rfl, fun h => h⟩
theorem FB.mqttSend (g : Gw) (p : MqPkt) : FB g (g.mqttSend p) := ⟨rfl, fun h => h⟩
theorem FB.setNow (g : Gw) (t : Nat) : FB g (g.setNow t) := FB.of_eq rfl rfl rfl
theorem FB.fail (g : Gw) (c : EndCls) : FB g (g.fail c) := .of_walk fun _ _ _ => Fr.fail g c
theorem FB.finishTx (g : Gw) (id : Nat) : FB g (g.finishTx id) := .of_walk fun _ _ _ => Fr.finishTx g id
theorem FB.cancelSleepPinger (g : Gw) : FB g g.cancelSleepPinger := FB.of_eq rfl rfl rfl
theorem FB.startSleepPinger (g : Gw) (d : UInt16) : FB g (g.startSleepPinger d) := FB.of_eq rfl rfl rfl
theorem FB.armSleepPinger (g : Gw) (d : UInt16) : FB g (g.armSleepPinger d) := .of_walk fun _ _ _ => Fr.armSleepPinger g d
theorem FB.pingBroker (g : Gw) : FB g g.pingBroker := .of_walk fun _ S _ => Fr.pingBroker S g
theorem FB.keepBrokerAlive (g : Gw) : FB g g.keepBrokerAlive := .of_walk fun _ S _ => Fr.keepBrokerAlive S g
theorem FB.proceedSN (g : Gw) (id : Nat) (s : BpSt) (p : Pkt) : FB g (g.proceedSN id s p) :=
  .of_fr (proceedSN_cfg g id s p) (Fr.proceedSN g id s p trivial fun _ => okb_bp (Nat.zero_le _))
theorem FB.proceedMQ (g : Gw) (id : Nat) (s : BpSt) (p : MqPkt) : FB g (g.proceedMQ id s p) :=
  .of_fr (proceedMQ_cfg g id s p) (Fr.proceedMQ g id s p (.free trivial) fun _ => okb_bp (Nat.zero_le _))
theorem FB.bpRegack (g : Gw) (t : Tx) (q : UInt8) (s : BpSt) (d : BpData) (snp : Option Pkt) (rc : UInt8) :
    FB g (g.bpRegack t q s d snp rc) :=
  .of_fr (bpRegack_cfg g t q s d snp rc)
    (Fr.bpRegack (fbSites _) g t q s d snp rc fun _ _ _ _ _ => ⟨0, okb_bp (Nat.zero_le _)⟩)
theorem FB.handleClientPublish (g : Gw) (dup : Bool) (q : UInt8) (r : Bool) (tit : UInt8) (tid mid : UInt16) (d : Bytes) :
    FB g (g.handleClientPublish dup q r tit tid mid d) :=
  .of_fr (handleClientPublish_cfg g dup q r tit tid mid d)
    (Fr.handleClientPublish (fbSites _) g dup q r tit tid mid d fun _ _ _ => .free trivial)
theorem FB.handleSubscribe (g : Gw) (dup : Bool) (q tit : UInt8) (mid tid : UInt16) (n : Bytes) :
    FB g (g.handleSubscribe dup q tit mid tid n) := .of_walk fun _ S _ => Fr.handleSubscribe S g dup q tit mid tid n
theorem FB.handleUnsubscribe (g : Gw) (tit : UInt8) (mid tid : UInt16) (n : Bytes) : FB g (g.handleUnsubscribe tit mid tid n) :=
  .of_walk fun _ S _ => Fr.handleUnsubscribe S g tit mid tid n
theorem FB.handleRegister (g : Gw) (mid : UInt16) (n : Bytes) : FB g (g.handleRegister mid n) :=
  .of_walk fun _ S _ => Fr.handleRegister S g mid n
theorem FB.handleBrokerPublish (g : Gw) (dup : Bool) (q : UInt8) (r : Bool) (mid : UInt16) (tp pl : Bytes) :
    FB g (g.handleBrokerPublish dup q r mid tp pl) := .of_walk fun _ S _ => Fr.handleBrokerPublish S g dup q r mid tp pl
theorem FB.connAuth (g : Gw) (t : Tx) (st : ConnSt) (f : ConnFields) (m d : Bytes) : FB g (g.connAuth t st f m d) :=
  .of_fr (connAuth_cfg g t st f m d) (Fr.connAuth SnSites.top g t st f m d fun _ _ _ => fbAuthd _ _ _)
theorem FB.connWillTopic (g : Gw) (t : Tx) (st : ConnSt) (f : ConnFields) (q : UInt8) (r : Bool) (tp : Bytes) :
    FB g (g.connWillTopic t st f q r tp) :=
  .of_fr (connWillTopic_cfg g t st f q r tp) (Fr.connWillTopic (fbSites _) g t st f q r tp fun _ => okb_connect _ _ _)
theorem FB.connWillMsg (g : Gw) (t : Tx) (st : ConnSt) (f : ConnFields) (m : Bytes) : FB g (g.connWillMsg t st f m) :=
  .of_fr (connWillMsg_cfg g t st f m) (Fr.connWillMsg (fbSites _) g t st f m fun _ => okb_connect _ _ _)
theorem FB.connConnack (g : Gw) (t : Tx) (st : ConnSt) (rc : UInt8) : FB g (g.connConnack t st rc) :=
  .of_fr (connConnack_cfg g t st rc) (Fr.connConnack SnSites.top g t st rc fun _ _ => trivial)
theorem FB.handleConnect (g : Gw) (will clean : Bool) (dur : UInt16) (cid : Bytes) :
    FB g (g.handleConnect will clean dur cid) := .of_fr (handleConnect_cfg g will clean dur cid)
    (Fr.handleConnect SnSites.top (fbConn _) g will clean dur cid fun _ => trivial)
theorem FB.handlePingreq (g : Gw) : FB g g.handlePingreq := .of_fr (handlePingreq_cfg g) (Fr.handlePingreq (fbSites _) g fun _ _ => trivial)
theorem FB.handleDisconnect (g : Gw) (d : UInt16) : FB g (g.handleDisconnect d) :=
  .of_fr (handleDisconnect_cfg g d)
    (Fr.handleDisconnect (fbSites _) g d (fun _ => ⟨.free trivial, trivial⟩) fun _ => ⟨trivial, trivial⟩)
theorem FB.retryExpire (g : Gw) (t : Tx) (ht : t ∈ g.txs) : FB g (g.retryExpire t) :=
  .of_walk fun _ S _ => Fr.retryExpire S g t ht
theorem FB.fireDue (g : Gw) (d : Due) : FB g (g.fireDue d) := .of_walk fun _ S _ => Fr.fireDue S g d
theorem FB.advance : ∀ (fuel : Nat) (g : Gw) (t : Nat), FB g (advance fuel g t) :=
  fun fuel g t => .of_walk fun _ S _ => Fr.advance S t fuel g
theorem FB.sample (g : Gw) : FB g g.sample := .of_walk fun _ _ _ => Fr.sample g

end Bisquitt.Gw
