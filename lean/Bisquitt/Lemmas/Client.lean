/-
  What the operations of the client model (Model/Client.lean) do, stated once:
  * sending on an open connection, and on a closed one (the receive loop is failed);
  * frames: which fields of the state an operation can change at all, as an equation
    `op c = { c with changed := (op c).changed }` — after `rw [op_frame]` every other field of
    `op c` is that of `c` by reduction (not for `simp`, which would rewrite the right side again);
  * the done-waiter case of `settleOne`, the end of a live exchange and the first QoS-2 PUBLISH of a
    message ID as equations between whole states (the live retransmission of `fireTx` is
    `fireTx_retry_open` in Props/C17, beside `dupOf`);
  * what a lookup in the store of exchanges finds (`getTx_id`, `lookupByIdB_spec`, `runFinally_lookupByIdB`).
-/
import Bisquitt.Model.Client
import Bisquitt.Lemmas.Assoc

namespace Bisquitt.Cl
open Bisquitt Cl

theorem send_open (c : Cl) (p : Pkt) (h : c.connClosed = false) :
    c.send p = (c.emit (.sn (encode p)), true) := by simp [send, h]

theorem sendOrFail_open (c : Cl) (p : Pkt) (h : c.connClosed = false) : c.sendOrFail p = c.emit (.sn (encode p)) := by
  simp [sendOrFail, send_open c p h]

theorem sendOrFail_closed (c : Cl) (p : Pkt) (h : c.connClosed = true) : c.sendOrFail p = c.rxFail .closed := by
  simp [sendOrFail, send, h]

theorem rxFail_frame (c : Cl) (e : Err) :
    c.rxFail e =
      { c with rxAlive := false, cancelledAt := (c.rxFail e).cancelledAt, groupErr := (c.rxFail e).groupErr,
               kaTick := (c.rxFail e).kaTick, txs := (c.rxFail e).txs } := by
  unfold rxFail cancelGroup; split <;> rfl

theorem runFinally_frame (c : Cl) (t : Tx) :
    c.runFinally t =
      { c with byId := (c.runFinally t).byId, byIdB := (c.runFinally t).byIdB,
               slotConnect := (c.runFinally t).slotConnect, slotPing := (c.runFinally t).slotPing,
               slotDisconnect := (c.runFinally t).slotDisconnect } := by
  unfold runFinally
  split <;> (try split) <;> rfl

theorem finishTx_frame (c : Cl) (id : Nat) (e : Err) :
    c.finishTx id e =
      { c with txs := (c.finishTx id e).txs, byId := (c.finishTx id e).byId, byIdB := (c.finishTx id e).byIdB,
               slotConnect := (c.finishTx id e).slotConnect, slotPing := (c.finishTx id e).slotPing,
               slotDisconnect := (c.finishTx id e).slotDisconnect } := by
  unfold finishTx
  split
  · split
    · rfl
    · rw [runFinally_frame]; rfl
  · rfl

theorem finishTx_outs (c : Cl) (id : Nat) (e : Err) : (c.finishTx id e).outs = c.outs := by
  rw [finishTx_frame]

theorem proceed_frame (c : Cl) (id : Nat) (k : TxKind) (p : Pkt) :
    c.proceed id k p = { c with txs := (c.proceed id k p).txs } := by
  unfold proceed; split <;> (try split) <;> rfl

theorem armConnectTimer_frame (c : Cl) (id : Nat) :
    c.armConnectTimer id = { c with txs := (c.armConnectTimer id).txs } := by
  unfold armConnectTimer; split <;> rfl

theorem notifyState_frame (c : Cl) (s : CState) :
    c.notifyState s = { c with kaTick := (c.notifyState s).kaTick } := by
  unfold notifyState; split <;> (try split) <;> rfl

theorem deliver_frame (c : Cl) (topic : Bytes) (q : UInt8) (r : Bool) (d : Bytes) :
    c.deliver topic q r d = { c with outs := (c.deliver topic q r d).outs } := by
  unfold deliver; simp only; split <;> rfl

/-- A waiting API call (not the keep-alive's) whose exchange has ended returns its result; when the
    group has ended too, Go's `select` may equally take the group's branch. -/
theorem settleOne_done_plain (c : Cl) (w : Wait) (t : Tx) (hw : w.kind = .plain) (hc : w.call ≠ "#keepalive")
    (ht : c.getTx w.tx = some t) (hd : t.done = true) (hn : w.committed = false) :
    c.settleOne w = c.emit (if c.groupDone ∧ t.err ≠ c.interrupted then .retEither w.call t.err c.interrupted
                            else .ret w.call t.err) := by
  unfold settleOne
  simp only [ht, hd, hn, hw, hc, Bool.not_false, and_self, if_true, if_false]
  split <;> rfl

theorem finishTx_live {c : Cl} {t : Tx} (ht : c.getTx t.id = some t) (hd : t.done = false) (e : Err) :
    c.finishTx t.id e = (c.setTx { t with done := true, err := e, timer := none }).runFinally t := by
  rw [finishTx, ht]
  exact if_neg (hd ▸ Bool.false_ne_true)

theorem find_none_map {α} (l : List α) (p : α → Bool) (v : α) (h : l.find? p = none) :
    l.map (fun x => if p x then v else x) = l :=
  (List.map_congr_left fun a ha => if_neg (List.find?_eq_none.mp h a ha)).trans (List.map_id' l)

theorem getTx_newTx (c : Cl) (k : TxKind) (key : Key) (hfresh : c.getTx c.nextTx = none) :
    (c.newTx k key).2.getTx c.nextTx = some { id := c.nextTx, kind := k, key := key } := by
  unfold getTx at hfresh ⊢
  unfold newTx
  rw [List.find?_append, hfresh, Option.none_or, List.find?_cons_of_pos (by exact beq_self_eq_true c.nextTx)]

/-- The first QoS-2 PUBLISH under a message ID, as a whole: a new exchange is stored under that ID and PUBREC answers
    (`hfresh`: transaction numbers in use are below `nextTx`). -/
theorem handlePacket_publish2_new (c : Cl) (dup retain : Bool) (tit : UInt8) (tid mid : UInt16) (data : Bytes)
    (hnew : c.byIdB.lookup mid = none) (hfresh : c.getTx c.nextTx = none) :
    c.handlePacket (.publish dup 2 retain tit tid mid data) =
      ((c.newTx (.brokerPub2 (.publish dup 2 retain tit tid mid data)) (.byIdB mid)).2.store (.byIdB mid) c.nextTx).sendOrFail
        (.pubrec mid) := by
  dsimp only [handlePacket]
  rw [if_pos rfl, hnew]
  dsimp only
  -- `erw`: the handler reads the new exchange back through `store` and under the name `(c.newTx ..).1`
  erw [getTx_newTx c _ _ hfresh]
  dsimp only
  -- putting the new exchange where it stands already changes nothing: no older one has its number
  unfold setTx store newTx
  dsimp only
  rw [List.map_append, find_none_map c.txs (·.id == c.nextTx) _ hfresh, List.map_singleton, ite_self]

theorem getTx_id {c : Cl} {id : Nat} {t : Tx} (h : c.getTx id = some t) : t.id = id := by
  have := List.find?_some h
  exact eq_of_beq this

theorem lookupByIdB_spec {c : Cl} {mid : UInt16} {t : Tx} (h : c.lookupByIdB mid = some t) :
    c.byIdB.lookup mid = some t.id ∧ c.getTx t.id = some t := by
  obtain ⟨id, hl, hg⟩ := Option.bind_eq_some_iff.mp h
  cases getTx_id hg
  exact ⟨hl, hg⟩

theorem runFinally_lookupByIdB {c : Cl} {t : Tx} {mid : UInt16} (hkey : t.key = .byIdB mid)
    (hl : c.byIdB.lookup mid = some t.id) : (c.runFinally t).lookupByIdB mid = none := by
  simp only [runFinally, hkey, hl, lookupByIdB, lookup_filter_ne, if_true, Option.bind_none]

end Bisquitt.Cl
