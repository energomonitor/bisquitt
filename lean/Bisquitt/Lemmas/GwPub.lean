/-
  C01 (all runs): an MQTT PUBLISH is written to the broker only by the handler of a PUBLISH datagram of the
  client, and by it at most once.  `F1 n g g'` says that a model function keeps the invariant `AllNoPub` (no
  broker-publish exchange holds an MQTT PUBLISH as its packet to resend: retransmissions towards the broker are
  acknowledgements only) and extends the list of MQTT PUBLISH packets written so far by at most `n` new ones:
  `n = 1` for the PUBLISH handler, `n = 0` for everything else.  It is `FW` (`Lemmas/GwWatch.lean`) at the
  watch of the PUBLISH packets.
-/
import Bisquitt.Lemmas.GwWatch

namespace Bisquitt.Gw
open Bisquitt Gw

def notPublish : MqPkt → Bool | .publish .. => false | _ => true
def bpNoPub (k : TxKind) : Prop := ∀ q st p snp n, k = .brokerPub q st (.mq p) snp n → notPublish p = true
def AllNoPub (g : Gw) : Prop := ∀ t ∈ g.txs, bpNoPub t.kind

def isMqPublish (o : Nat × Out) : Bool := match o.2 with | .mq (.publish ..) => true | _ => false
/-- the MQTT PUBLISH packets written so far (newest first) -/
def mqPublishes (g : Gw) : List (Nat × Out) := g.outs.filter isMqPublish

structure F1 (n : Nat) (g g' : Gw) : Prop where
  keep : AllNoPub g → AllNoPub g' ∧ ∃ new, mqPublishes g' = new ++ mqPublishes g ∧ new.length ≤ n

/-- what a client packet may add: a PUBLISH is forwarded once -/
def pubBudget : Pkt → Nat | .publish .. => 1 | _ => 0

/-- 1 for a datagram that decodes as a PUBLISH, 0 for every other event -/
def publishDatagram : Event → Nat
  | .sn bytes => match decode (bytes.take Gen.MaxPacketLen) with
    | .ok (_, p) => pubBudget p
    | _ => 0
  | _ => 0

/-- the MQTT PUBLISH packets, forwarded by the handler of the client's PUBLISH alone -/
def watchPublish : Watch where
  W := fun p => !notPublish p
  nPub := 1
  nSub := 0
  nUnsub := 0
  nRel := 0
  connect := fun _ => rfl
  pingreq := rfl
  disconnect := rfl
  puback := fun _ => rfl
  pubrec := fun _ => rfl
  pubcomp := fun _ => rfl
  publish := fun _ _ _ _ _ _ => Nat.le_refl _
  subscribe := fun _ _ _ _ => Nat.le_refl _
  unsubscribe := fun _ _ => Nat.le_refl _
  pubrel := fun _ => Nat.le_refl _

theorem allQuiet_iff (g : Gw) : AllQuiet watchPublish g ↔ AllNoPub g := by
  simp only [AllQuiet, AllNoPub, bpQuiet, bpNoPub, watchPublish, Bool.not_eq_false']

theorem isWatched_eq (o : Nat × Out) : isWatched watchPublish o = isMqPublish o := by
  obtain ⟨_, o⟩ := o
  cases o with
  -- `eq_refl`, here and in `wBudget_eq`: `rfl` tries its other relations as well, on every case of the sweep
  | mq p => cases p <;> eq_refl
  | _ => rfl

theorem watched_eq (g : Gw) : watched watchPublish g = mqPublishes g := List.filter_congr fun o _ => isWatched_eq o

theorem F1.of_fw {n : Nat} {g g' : Gw} (h : FW watchPublish n g g') : F1 n g g' :=
  ⟨fun hA => by
    rw [← watched_eq, ← watched_eq, ← allQuiet_iff]
    exact h.keep ((allQuiet_iff g).mpr hA)⟩

theorem F1.fw {n : Nat} {g g' : Gw} (h : F1 n g g') : FW watchPublish n g g' :=
  ⟨fun hA => by
    rw [watched_eq, watched_eq, allQuiet_iff]
    exact h.keep ((allQuiet_iff g).mp hA)⟩

theorem wBudget_eq : wBudget watchPublish = pubBudget := funext fun p => by cases p <;> eq_refl
theorem wEvent_eq (ev : Event) : wEvent watchPublish ev = publishDatagram ev := by
  unfold wEvent; rw [wBudget_eq]; rfl

theorem F1.inv {n : Nat} {g g' : Gw} (h : F1 n g g') (hA : AllNoPub g) : AllNoPub g' := (h.keep hA).1
theorem F1.refl (g : Gw) : F1 0 g g := .of_fw (FW.refl _ g)
theorem F1.comp {m n : Nat} {a b c : Gw} (h1 : F1 m a b) (h2 : F1 n b c) : F1 (m + n) a c := .of_fw (h1.fw.comp h2.fw)
theorem F1.mono {n m : Nat} {g g' : Gw} (h : F1 n g g') (hnm : n ≤ m) : F1 m g g' := .of_fw (h.fw.mono hnm)
theorem F1.trans {a b c : Gw} (h1 : F1 0 a b) (h2 : F1 0 b c) : F1 0 a c := h1.comp h2
theorem F1.before {n : Nat} {a b c : Gw} (h1 : F1 0 a b) (h2 : F1 n b c) : F1 n a c :=
  (h1.comp h2).mono (Nat.le_of_eq (Nat.zero_add n))
theorem F1.after {n : Nat} {a b c : Gw} (h1 : F1 n a b) (h2 : F1 0 b c) : F1 n a c := h1.comp h2
theorem F1.same {g g' : Gw} (h : F1 0 g g') (hA : AllNoPub g) : mqPublishes g' = mqPublishes g := by
  rw [← watched_eq, ← watched_eq]
  exact h.fw.same ((allQuiet_iff g).mpr hA)
theorem F1.of_eq {g g' : Gw} (ho : g'.outs = g.outs) (ht : g'.txs = g.txs) : F1 0 g g' := .of_fw (FW.of_eq _ ho ht)

/-! ### `F1` of one call of each model function (from `FW` at the PUBLISH watch) -/

theorem F1.emit (g : Gw) (o : Out) (h : isMqPublish (g.now, o) = false) : F1 0 g (g.emit o) :=
  .of_fw (FW.emit _ g o ((isWatched_eq _).trans h))
theorem F1.snSend (g : Gw) (p : Pkt) (tx : Option Nat) : F1 0 g (g.snSend p tx) := .of_fw (FW.snSend _ g p tx)
theorem F1.snSendNow (g : Gw) (p : Pkt) : F1 0 g (g.snSendNow p) := .of_fw (FW.snSendNow _ g p)
theorem F1.mqttSend (g : Gw) (p : MqPkt) (h : notPublish p = true) : F1 0 g (g.mqttSend p) :=
  .of_fw (FW.mqttSend _ g p (congrArg not h))
theorem F1.setNow (g : Gw) (t : Nat) : F1 0 g (g.setNow t) := F1.of_eq rfl rfl
theorem F1.fail (g : Gw) (c : EndCls) : F1 0 g (g.fail c) := .of_fw (FW.fail _ g c)
theorem F1.finishTx (g : Gw) (id : Nat) : F1 0 g (g.finishTx id) := .of_fw (FW.finishTx _ g id)
theorem F1.cancelSleepPinger (g : Gw) : F1 0 g g.cancelSleepPinger := F1.of_eq rfl rfl
theorem F1.startSleepPinger (g : Gw) (d : UInt16) : F1 0 g (g.startSleepPinger d) := F1.of_eq rfl rfl
theorem F1.armSleepPinger (g : Gw) (d : UInt16) : F1 0 g (g.armSleepPinger d) := .of_fw (FW.armSleepPinger _ g d)
theorem F1.pingBroker (g : Gw) : F1 0 g g.pingBroker := .of_fw (FW.pingBroker _ g)
theorem F1.keepBrokerAlive (g : Gw) : F1 0 g g.keepBrokerAlive := .of_fw (FW.keepBrokerAlive _ g)
theorem F1.proceedSN (g : Gw) (id : Nat) (s : BpSt) (p : Pkt) : F1 0 g (g.proceedSN id s p) := .of_fw (FW.proceedSN _ g id s p)
theorem F1.proceedMQ (g : Gw) (id : Nat) (s : BpSt) (p : MqPkt) (h : notPublish p = true) : F1 0 g (g.proceedMQ id s p) :=
  .of_fw (FW.proceedMQ _ g id s p (congrArg not h))
theorem F1.bpRegack (g : Gw) (t : Tx) (q : UInt8) (s : BpSt) (d : BpData) (snp : Option Pkt) (rc : UInt8) :
    F1 0 g (g.bpRegack t q s d snp rc) := .of_fw (FW.bpRegack _ g t q s d snp rc)
theorem F1.handleClientPublish (g : Gw) (dup : Bool) (q : UInt8) (r : Bool) (tit : UInt8) (tid mid : UInt16) (d : Bytes) :
    F1 1 g (g.handleClientPublish dup q r tit tid mid d) := .of_fw (FW.handleClientPublish _ g dup q r tit tid mid d)
theorem F1.handleSubscribe (g : Gw) (dup : Bool) (q tit : UInt8) (mid tid : UInt16) (n : Bytes) :
    F1 0 g (g.handleSubscribe dup q tit mid tid n) := .of_fw (FW.handleSubscribe _ g dup q tit mid tid n)
theorem F1.handleUnsubscribe (g : Gw) (tit : UInt8) (mid tid : UInt16) (n : Bytes) : F1 0 g (g.handleUnsubscribe tit mid tid n) :=
  .of_fw (FW.handleUnsubscribe _ g tit mid tid n)
theorem F1.handleRegister (g : Gw) (mid : UInt16) (n : Bytes) : F1 0 g (g.handleRegister mid n) :=
  .of_fw (FW.handleRegister _ g mid n)
theorem F1.handleBrokerPublish (g : Gw) (dup : Bool) (q : UInt8) (r : Bool) (mid : UInt16) (tp pl : Bytes) :
    F1 0 g (g.handleBrokerPublish dup q r mid tp pl) := .of_fw (FW.handleBrokerPublish _ g dup q r mid tp pl)
theorem F1.connAuth (g : Gw) (t : Tx) (st : ConnSt) (f : ConnFields) (m d : Bytes) : F1 0 g (g.connAuth t st f m d) :=
  .of_fw (FW.connAuth _ g t st f m d)
theorem F1.connWillTopic (g : Gw) (t : Tx) (st : ConnSt) (f : ConnFields) (q : UInt8) (r : Bool) (tp : Bytes) :
    F1 0 g (g.connWillTopic t st f q r tp) := .of_fw (FW.connWillTopic _ g t st f q r tp)
theorem F1.connWillMsg (g : Gw) (t : Tx) (st : ConnSt) (f : ConnFields) (m : Bytes) : F1 0 g (g.connWillMsg t st f m) :=
  .of_fw (FW.connWillMsg _ g t st f m)
theorem F1.connConnack (g : Gw) (t : Tx) (st : ConnSt) (rc : UInt8) : F1 0 g (g.connConnack t st rc) :=
  .of_fw (FW.connConnack _ g t st rc)
theorem F1.handleConnect (g : Gw) (will clean : Bool) (dur : UInt16) (cid : Bytes) :
    F1 0 g (g.handleConnect will clean dur cid) := .of_fw (FW.handleConnect _ g will clean dur cid)
theorem F1.handlePingreq (g : Gw) : F1 0 g g.handlePingreq := .of_fw (FW.handlePingreq _ g)
theorem F1.handleDisconnect (g : Gw) (d : UInt16) : F1 0 g (g.handleDisconnect d) := .of_fw (FW.handleDisconnect _ g d)
theorem F1.retryExpire (g : Gw) (t : Tx) (ht : t ∈ g.txs) : F1 0 g (g.retryExpire t) := .of_fw (FW.retryExpire _ g t ht)
theorem F1.fireDue (g : Gw) (d : Due) : F1 0 g (g.fireDue d) := .of_fw (FW.fireDue _ g d)
theorem F1.advance : ∀ (fuel : Nat) (g : Gw) (t : Nat), F1 0 g (advance fuel g t) :=
  fun fuel g t => .of_fw (FW.advance _ fuel g t)
theorem F1.sample (g : Gw) : F1 0 g g.sample := .of_fw (FW.sample _ g)

end Bisquitt.Gw
