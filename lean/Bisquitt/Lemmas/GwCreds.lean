/-
  Second half of C08 (all runs): with authentication DISABLED, whatever AUTH packets the client sends,
  every MQTT CONNECT the gateway writes carries exactly the configured credentials.  Invariant `J g`: every
  connect exchange in the store is past `awaitingAuth` (it starts authenticated) and carries the configured
  credentials (`AllCfg`), and every MQTT CONNECT in the log carries them (`AllConnOk`).  The frame
  (`Lemmas/GwFrame.lean`) is `fcFrame`: invariant `AllCfg`, permitted outputs those `connOutOk` admits — it has the
  connect sites only where authentication is disabled (`fcConn`), and admits every packet: an AUTH never finds an
  exchange waiting for it; `Props/C08.lean` applies `Fr.run_init` to it.  `FC g g'` is the relation that says the same
  of one call of a model function (keeps the configuration and `J`), obtained from the frame by `FC.of_fr`.
-/
import Bisquitt.Lemmas.GwAuth

namespace Bisquitt.Gw
open Bisquitt Gw

def credsOk (cfg : Cfg) (f : ConnFields) : Prop :=
  f.uflag = cfg.user.isSome ∧ f.user = cfg.user.getD [] ∧ f.pflag = cfg.pass.isSome ∧ f.pass = cfg.pass.getD []

def kindOkC (cfg : Cfg) (k : TxKind) : Prop :=
  (∀ st f, k = .connect st f → st ≠ .awaitingAuth ∧ credsOk cfg f) ∧
  (∀ q st p snp n, k = .brokerPub q st (.mq p) snp n → notConnect p = true)

def AllCfg (g : Gw) : Prop := ∀ t ∈ g.txs, kindOkC g.cfg t.kind

/-- an MQTT CONNECT in the log carries the configured credentials -/
def connOutOk (cfg : Cfg) (o : Nat × Out) : Prop :=
  ∀ cid clean ka uflag user pflag pass will wq wr wt wm,
    o.2 = .mq (.connect cid clean ka uflag user pflag pass will wq wr wt wm) →
      uflag = cfg.user.isSome ∧ user = cfg.user.getD [] ∧ pflag = cfg.pass.isSome ∧ pass = cfg.pass.getD []

def AllConnOk (g : Gw) : Prop := ∀ o ∈ g.outs, connOutOk g.cfg o

def J (g : Gw) : Prop := AllCfg g ∧ AllConnOk g

structure FC (g g' : Gw) : Prop where
  cfg : g'.cfg = g.cfg
  keep : J g → J g'

/-- (`connOutOk` speaks of logged outputs, which carry a time: any time will do) -/
def fcFrame (c : Cfg) : Frame := { cfg := c, K := fun _ => kindOkC c, Mq := fun p => connOutOk c (0, .mq p) }

theorem okc_bp {cfg : Cfg} {q : UInt8} {st : BpSt} {d : BpData} {snp : Option Pkt} {n : Nat}
    (hd : ∀ p, d = .mq p → notConnect p = true) : kindOkC cfg (.brokerPub q st d snp n) :=
  ⟨fun _ _ => nofun, fun _ _ p _ _ e => hd p (by cases e; rfl)⟩
theorem okc_other {cfg : Cfg} {k : TxKind} (h1 : ∀ st f, k ≠ .connect st f) (h2 : ∀ q st d snp n, k ≠ .brokerPub q st d snp n) :
    kindOkC cfg k :=
  ⟨fun st f e => absurd e (h1 st f), fun q st p snp n e => absurd e (h2 q st (.mq p) snp n)⟩
theorem okc_connect {cfg : Cfg} (st : ConnSt) (f : ConnFields) (hs : st ≠ .awaitingAuth) (hf : credsOk cfg f) :
    kindOkC cfg (.connect st f) :=
  ⟨fun _ _ e => by cases e; exact ⟨hs, hf⟩, fun _ _ _ _ _ => nofun⟩

theorem connOutOk_sn (cfg : Cfg) (t : Nat) (b : Bytes) : connOutOk cfg (t, .sn b) := fun _ _ _ _ _ _ _ _ _ _ _ _ => nofun
theorem connOutOk_mq (cfg : Cfg) (t : Nat) (p : MqPkt) (h : notConnect p = true) : connOutOk cfg (t, .mq p) := by
  intro _ _ _ _ _ _ _ _ _ _ _ _ e
  cases e; cases h
theorem connOutOk_connect (cfg : Cfg) (t : Nat) (f : ConnFields) (hf : credsOk cfg f) : connOutOk cfg (t, .mq f.toPkt) := by
  intro _ _ _ _ _ _ _ _ _ _ _ _ e
  cases e; exact hf

theorem fcMay (c : Cfg) {p : MqPkt} {n : Nat} (h : notConnect p = true) : (fcFrame c).May n p := .free (connOutOk_mq c 0 p h)

theorem fcConnect (c : Cfg) {R : List (Bytes × UInt16)} {f : ConnFields} (hf : credsOk c f) :
    (fcFrame c).K R (.connect .awaitingConnack f) ∧ (fcFrame c).May 0 f.toPkt :=
  ⟨okc_connect _ _ nofun hf, connOutOk_connect c 0 f hf, nofun⟩

theorem fcSites (c : Cfg) : (fcFrame c).Sites :=
  { SnSites.top with
    kClientPub1 := fun _ => okc_other (fun _ _ => nofun) fun _ _ _ _ _ => nofun
    kSubscribe := fun _ => okc_other (fun _ _ => nofun) fun _ _ _ _ _ => nofun
    bpNew := fun _ _ _ _ => okc_bp fun _ => nofun
    bpSn := fun _ _ _ _ _ => okc_bp fun _ => nofun
    bpAck := fun _ _ ha _ => okc_bp fun _ e => by cases e; exact notConnect_of_ack ha
    bpSnp := fun _ => trivial
    retrySn := fun _ _ => ⟨trivial, okc_bp fun _ => nofun⟩
    retryMq := fun hK _ => ⟨fcMay c (hK.2 _ _ _ _ _ rfl), okc_bp fun _ e => by cases e; exact hK.2 _ _ _ _ _ rfl⟩
    mqAck := fun _ ha => fcMay c (notConnect_of_ack ha)
    mqPingreq := fcMay c rfl
    mqSubscribe := fun _ _ _ _ _ _ => fcMay c rfl
    mqUnsubscribe := fun _ _ _ => fcMay c rfl
    mqPubrel := fun _ => fcMay c rfl
    -- the will packets leave the credentials alone
    willTopic := fun _ _ _ _ hK _ =>
      okc_connect _ _ nofun (iteInduction (fun _ => (hK.1 _ _ rfl).2) fun _ => (hK.1 _ _ rfl).2)
    willMsg := fun _ _ hK =>
      fcConnect c (iteInduction (motive := credsOk c) (fun _ => (hK.1 _ _ rfl).2) fun _ => (hK.1 _ _ rfl).2) }

theorem fcAuthd (c : Cfg) {R : List (Bytes × UInt16)} {f : ConnFields} (hf : credsOk c f) : (fcFrame c).Authd R f :=
  ⟨fun _ => okc_connect _ _ nofun hf, fun _ => fcConnect c hf⟩

/-- authentication disabled: a new exchange starts authenticated, with the configured credentials (`mkConnFields` copies
    them from the configuration) -/
theorem fcConn (c : Cfg) (ha : c.auth = false) : (fcFrame c).ConnSites where
  new := fun hf => absurd (hf.symm.trans ha) nofun
  noAuth := fun _ _ _ _ _ => fcAuthd c ⟨rfl, rfl, rfl, rfl⟩

theorem fcAdmits (c : Cfg) (p : Pkt) : (fcFrame c).Admits p where
  -- no exchange is waiting for AUTH
  auth := fun _ _ _ _ _ _ _ hK => absurd rfl (hK.1 _ _ rfl).1
  publish := fun _ _ _ _ _ _ _ _ _ _ _ => fcMay c rfl
  mqDisconnect := fun _ => fcMay c rfl
  toAdmitsSt := .of_true (fun _ => trivial) fun _ => trivial

theorem connOutOk_of_ok {c : Cfg} {o : Nat × Out} (h : (fcFrame c).OutOk o.2) : connOutOk c o := by
  intro _ _ _ _ _ _ _ _ _ _ _ _ e
  rw [e] at h
  exact h _ _ _ _ _ _ _ _ _ _ _ _ rfl

theorem FC.of_fr {n : Nat} {g g' : Gw} (hc : g'.cfg = g.cfg) (h : Fr (fcFrame g.cfg) n g g') : FC g g' :=
  ⟨hc, fun hJ => by
    obtain ⟨hI, _, e, hn, _⟩ := h ⟨rfl, trivial, trivial, fun _ _ => trivial, hJ.1⟩
    exact ⟨fun t ht => hc ▸ hI.txs t ht, fun o ho => hc ▸
      (List.mem_append.mp (e ▸ ho)).elim (fun h1 => connOutOk_of_ok (hn o h1)) (hJ.2 o)⟩⟩

theorem connTx_kind {g : Gw} {t : Tx} {st : ConnSt} {f : ConnFields} (hJ : J g) (h : g.connTx = some (t, st, f)) :
    st ≠ .awaitingAuth ∧ credsOk g.cfg f :=
  (hJ.1 t (connTx_spec h).1).1 st f (connTx_spec h).2

theorem FC.of_walk {n : Frame → Nat} {g g' : Gw} (h : ∀ F : Frame, F.Sites → Fr F (n F) g g') : FC g g' :=
  .of_fr (h (.top g.cfg) (Frame.top_sites _)).cfg_eq (h _ (fcSites _))

theorem FC.refl (g : Gw) : FC g g := ⟨rfl, fun h => h⟩
theorem FC.trans {a b c : Gw} (h1 : FC a b) (h2 : FC b c) : FC a c := ⟨h2.cfg.trans h1.cfg, fun h => h2.keep (h1.keep h)⟩
theorem FC.of_eq {g g' : Gw} (hc : g'.cfg = g.cfg) (ho : g'.outs = g.outs) (ht : g'.txs = g.txs) : FC g g' :=
  ⟨hc, fun h => ⟨by unfold AllCfg; rw [ht, hc]; exact h.1, by unfold AllConnOk; rw [ho, hc]; exact h.2⟩⟩

/-! ### `FC` of one call of each model function (from `fcFrame`) -/

theorem FC.emit (g : Gw) (o : Out) (h : connOutOk g.cfg (g.now, o)) : FC g (g.emit o) :=
  ⟨rfl, fun hJ => ⟨hJ.1, fun x hx => (List.mem_cons.mp hx).elim (fun e => e ▸ h) (hJ.2 x)⟩⟩
theorem FC.snSend (g : Gw) (p : Pkt) (tx : Option Nat) : FC g (g.snSend p tx) :=
  .of_fr (snSend_cfg g p tx) (Fr.snSend g p tx trivial)
theorem FC.snSendNow (g : Gw) (p : Pkt) : FC g (g.snSendNow p) := FC.emit g _ (connOutOk_sn _ _ _)
theorem FC.mqttSend (g : Gw) (p : MqPkt) (h : notConnect p = true) : FC g (g.mqttSend p) :=
  FC.emit g _ (connOutOk_mq _ _ _ h)
theorem FC.setConnectTx (g : Gw) (id : Nat) : FC g (g.setConnectTx id) := FC.of_eq rfl rfl rfl
theorem FC.setNow (g : Gw) (t : Nat) : FC g (g.setNow t) := FC.of_eq rfl rfl rfl
theorem FC.fail (g : Gw) (c : EndCls) : FC g (g.fail c) := .of_walk fun _ _ => Fr.fail g c
theorem FC.finishTx (g : Gw) (id : Nat) : FC g (g.finishTx id) := .of_walk fun _ _ => Fr.finishTx g id
theorem FC.cancelSleepPinger (g : Gw) : FC g g.cancelSleepPinger := FC.of_eq rfl rfl rfl
theorem FC.startSleepPinger (g : Gw) (d : UInt16) : FC g (g.startSleepPinger d) := FC.of_eq rfl rfl rfl
theorem FC.armSleepPinger (g : Gw) (d : UInt16) : FC g (g.armSleepPinger d) := .of_walk fun _ _ => Fr.armSleepPinger g d
theorem FC.pingBroker (g : Gw) : FC g g.pingBroker := .of_walk fun _ S => Fr.pingBroker S g
theorem FC.keepBrokerAlive (g : Gw) : FC g g.keepBrokerAlive := .of_walk fun _ S => Fr.keepBrokerAlive S g
theorem FC.proceedSN (g : Gw) (id : Nat) (s : BpSt) (p : Pkt) : FC g (g.proceedSN id s p) :=
  .of_fr (proceedSN_cfg g id s p) (Fr.proceedSN g id s p trivial fun _ => okc_bp fun _ => nofun)
theorem FC.proceedMQ (g : Gw) (id : Nat) (s : BpSt) (p : MqPkt) (h : notConnect p = true) : FC g (g.proceedMQ id s p) :=
  .of_fr (proceedMQ_cfg g id s p) (Fr.proceedMQ g id s p (fcMay _ h) fun _ => okc_bp fun _ e => by cases e; exact h)
theorem FC.bpRegack (g : Gw) (t : Tx) (q : UInt8) (s : BpSt) (d : BpData) (snp : Option Pkt) (rc : UInt8) :
    FC g (g.bpRegack t q s d snp rc) :=
  .of_fr (bpRegack_cfg g t q s d snp rc)
    (Fr.bpRegack (fcSites _) g t q s d snp rc fun _ _ _ _ _ => ⟨0, okc_bp fun _ => nofun⟩)
theorem FC.handleClientPublish (g : Gw) (dup : Bool) (q : UInt8) (r : Bool) (tit : UInt8) (tid mid : UInt16) (d : Bytes) :
    FC g (g.handleClientPublish dup q r tit tid mid d) :=
  .of_fr (handleClientPublish_cfg g dup q r tit tid mid d)
    (Fr.handleClientPublish (fcSites _) g dup q r tit tid mid d fun _ _ _ => fcMay _ rfl)
theorem FC.handleSubscribe (g : Gw) (dup : Bool) (q tit : UInt8) (mid tid : UInt16) (n : Bytes) :
    FC g (g.handleSubscribe dup q tit mid tid n) := .of_walk fun _ S => Fr.handleSubscribe S g dup q tit mid tid n
theorem FC.handleUnsubscribe (g : Gw) (tit : UInt8) (mid tid : UInt16) (n : Bytes) : FC g (g.handleUnsubscribe tit mid tid n) :=
  .of_walk fun _ S => Fr.handleUnsubscribe S g tit mid tid n
theorem FC.handleRegister (g : Gw) (mid : UInt16) (n : Bytes) : FC g (g.handleRegister mid n) :=
  .of_walk fun _ S => Fr.handleRegister S g mid n
theorem FC.handleBrokerPublish (g : Gw) (dup : Bool) (q : UInt8) (r : Bool) (mid : UInt16) (tp pl : Bytes) :
    FC g (g.handleBrokerPublish dup q r mid tp pl) := .of_walk fun _ S => Fr.handleBrokerPublish S g dup q r mid tp pl
theorem FC.connAuthenticated (g : Gw) (t : Tx) (f : ConnFields) (hf : credsOk g.cfg f) : FC g (g.connAuthenticated t f) :=
  .of_fr (connAuthenticated_cfg g t f) (Fr.connAuthenticated g t f SnSites.top (fcAuthd _ hf))
/-- an AUTH packet finds the exchange past `awaitingAuth`: nothing happens -/
theorem FC.connAuth (g : Gw) (t : Tx) (st : ConnSt) (f : ConnFields) (m d : Bytes) (hs : st ≠ .awaitingAuth) :
    FC g (g.connAuth t st f m d) :=
  .of_fr (connAuth_cfg g t st f m d) (Fr.connAuth SnSites.top g t st f m d fun e => absurd e hs)
theorem FC.connWillTopic (g : Gw) (t : Tx) (st : ConnSt) (f : ConnFields) (q : UInt8) (r : Bool) (tp : Bytes)
    (hf : credsOk g.cfg f) : FC g (g.connWillTopic t st f q r tp) :=
  .of_fr (connWillTopic_cfg g t st f q r tp) (Fr.connWillTopic (fcSites _) g t st f q r tp fun _ => okc_connect _ _ nofun hf)
theorem FC.connWillMsg (g : Gw) (t : Tx) (st : ConnSt) (f : ConnFields) (m : Bytes) (hf : credsOk g.cfg f) :
    FC g (g.connWillMsg t st f m) :=
  .of_fr (connWillMsg_cfg g t st f m) (Fr.connWillMsg (fcSites _) g t st f m fun _ => okc_connect _ _ nofun hf)
theorem FC.connConnack (g : Gw) (t : Tx) (st : ConnSt) (rc : UInt8) : FC g (g.connConnack t st rc) :=
  .of_fr (connConnack_cfg g t st rc) (Fr.connConnack SnSites.top g t st rc fun _ _ => trivial)
theorem FC.handleConnect (g : Gw) (will clean : Bool) (dur : UInt16) (cid : Bytes) (ha : g.cfg.auth = false) :
    FC g (g.handleConnect will clean dur cid) :=
  .of_fr (handleConnect_cfg g will clean dur cid)
    (Fr.handleConnect SnSites.top (fcConn _ ha) g will clean dur cid fun _ => trivial)
theorem FC.handlePingreq (g : Gw) : FC g g.handlePingreq := .of_fr (handlePingreq_cfg g) (Fr.handlePingreq (fcSites _) g fun _ _ => trivial)
theorem FC.handleDisconnect (g : Gw) (d : UInt16) : FC g (g.handleDisconnect d) :=
  .of_fr (handleDisconnect_cfg g d)
    (Fr.handleDisconnect (fcSites _) g d (fun _ => ⟨fcMay _ rfl, trivial⟩) fun _ => ⟨trivial, trivial⟩)
theorem FC.retryExpire (g : Gw) (t : Tx) (ht : t ∈ g.txs) : FC g (g.retryExpire t) :=
  .of_walk fun _ S => Fr.retryExpire S g t ht
theorem FC.fireDue (g : Gw) (d : Due) : FC g (g.fireDue d) := .of_walk fun _ S => Fr.fireDue S g d
theorem FC.advance : ∀ (fuel : Nat) (g : Gw) (t : Nat), FC g (advance fuel g t) :=
  fun fuel g t => .of_walk fun _ S => Fr.advance S t fuel g
theorem FC.sample (g : Gw) : FC g g.sample := .of_walk fun _ _ => Fr.sample g

end Bisquitt.Gw
