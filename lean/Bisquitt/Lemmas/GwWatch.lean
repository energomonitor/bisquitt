/-
  C03 and C01 (all runs): for a family `w` of "watched" MQTT packets — PUBLISH, SUBSCRIBE, UNSUBSCRIBE or
  PUBREL — `FW w n g g'` says that a model function keeps the invariant `AllQuiet w` (no broker-publish
  exchange holds a watched packet as its packet to resend) and extends the list of watched packets written to
  the broker so far by at most `n` new ones.  The packets the gateway writes on its own account or relays from
  broker-side exchanges (CONNECT, PINGREQ, DISCONNECT, PUBACK, PUBREC, PUBCOMP) are never watched; the budget
  of the handler of a client datagram is the budget of the packet kind it forwards (`nPub`, `nSub`, `nUnsub`,
  `nRel`: 1 for the watched kind, else 0).  The frame (`Lemmas/GwFrame.lean`) is `fwFrame w`: that invariant, every
  output permitted, the watched ones counted; the run theorems at the end of this file (`fw_run`, `watched_unchanged`,
  `watched_step`, `watched_bounded`) apply `Fr.run_init` / `Fr.step` to it, and `FW w n g g'` is the relation of one
  call in these words (`FW.of_fr`).  `wBudget`, `wEvent` are `Frame.budget`, `Frame.evBudget` at `fwFrame w`, by
  definition.
-/
import Bisquitt.Lemmas.GwFrame

namespace Bisquitt.Gw
open Bisquitt Gw

/-- a family of watched MQTT packets with the per-kind budgets of the forwarding handlers -/
structure Watch where
  W : MqPkt → Bool
  nPub : Nat
  nSub : Nat
  nUnsub : Nat
  nRel : Nat
  connect : ∀ f : ConnFields, W f.toPkt = false
  pingreq : W .pingreq = false
  disconnect : W .disconnect = false
  puback : ∀ m, W (.puback m) = false
  pubrec : ∀ m, W (.pubrec m) = false
  pubcomp : ∀ m, W (.pubcomp m) = false
  publish : ∀ d q r m t p, (if W (.publish d q r m t p) then 1 else 0) ≤ nPub
  subscribe : ∀ m d t q, (if W (.subscribe m d t q) then 1 else 0) ≤ nSub
  unsubscribe : ∀ m t, (if W (.unsubscribe m t) then 1 else 0) ≤ nUnsub
  pubrel : ∀ m, (if W (.pubrel m) then 1 else 0) ≤ nRel

variable (w : Watch)

def bpQuiet (k : TxKind) : Prop := ∀ q st p snp n, k = .brokerPub q st (.mq p) snp n → w.W p = false
def AllQuiet (g : Gw) : Prop := ∀ t ∈ g.txs, bpQuiet w t.kind

def isWatched (o : Nat × Out) : Bool := match o.2 with | .mq p => w.W p | _ => false
/-- the watched packets written so far (newest first) -/
def watched (g : Gw) : List (Nat × Out) := g.outs.filter (isWatched w)

structure FW (n : Nat) (g g' : Gw) : Prop where
  keep : AllQuiet w g → AllQuiet w g' ∧ ∃ new, watched w g' = new ++ watched w g ∧ new.length ≤ n

/-- what a client packet may add: the budget of the packet kind its handler forwards -/
def wBudget (w : Watch) : Pkt → Nat
  | .publish .. => w.nPub
  | .subscribe .. => w.nSub
  | .unsubscribe .. => w.nUnsub
  | .pubrel _ => w.nRel
  | _ => 0

/-- the budget of an event: that of the client packet it decodes to -/
def wEvent (w : Watch) : Event → Nat
  | .sn bytes => match decode (bytes.take Gen.MaxPacketLen) with
    | .ok (_, p) => wBudget w p
    | _ => 0
  | _ => 0

def fwFrame (c : Cfg) : Frame :=
  { cfg := c, K := fun _ => bpQuiet w, W := w.W, nPub := w.nPub, nSub := w.nSub, nUnsub := w.nUnsub, nRel := w.nRel }

theorem quiet_bp {q : UInt8} {st : BpSt} {d : BpData} {snp : Option Pkt} {n : Nat}
    (hd : ∀ p, d = .mq p → w.W p = false) : bpQuiet w (.brokerPub q st d snp n) :=
  fun _ _ p _ _ e => hd p (by cases e; rfl)
theorem quiet_other {k : TxKind} (h : ∀ q st d snp n, k ≠ .brokerPub q st d snp n) : bpQuiet w k :=
  fun q st p snp n e => absurd e (h q st (.mq p) snp n)
theorem quiet_connect (st : ConnSt) (f : ConnFields) : bpQuiet w (.connect st f) := quiet_other w fun _ _ _ _ _ => nofun

theorem Watch.ack {p : MqPkt} (h : IsAck p) : w.W p = false := h.casesOn w.puback w.pubrec w.pubcomp

variable {w} in
theorem fwMay {c : Cfg} {p : MqPkt} {n : Nat} (h : (if w.W p then 1 else 0) ≤ n) : (fwFrame w c).May n p :=
  ⟨trivial, fun (hw : w.W p = true) => by rw [hw] at h; exact h⟩
theorem fwSites (c : Cfg) : (fwFrame w c).Sites :=
  { SnSites.top with
    kClientPub1 := fun _ => quiet_other w fun _ _ _ _ _ => nofun
    kSubscribe := fun _ => quiet_other w fun _ _ _ _ _ => nofun
    bpNew := fun _ _ _ _ => quiet_bp w fun _ => nofun
    bpSn := fun _ _ _ _ _ => quiet_bp w fun _ => nofun
    bpAck := fun _ _ ha _ => quiet_bp w fun _ e => by cases e; exact w.ack ha
    bpSnp := fun _ => trivial
    retrySn := fun _ _ => ⟨trivial, quiet_bp w fun _ => nofun⟩
    retryMq := fun hK _ => ⟨.free trivial (hK _ _ _ _ _ rfl), quiet_bp w fun _ e => by cases e; exact hK _ _ _ _ _ rfl⟩
    mqAck := fun _ ha => .free trivial (w.ack ha)
    mqPingreq := .free trivial w.pingreq
    mqSubscribe := fun _ _ _ _ _ _ => fwMay (w.subscribe ..)
    mqUnsubscribe := fun _ _ _ => fwMay (w.unsubscribe ..)
    mqPubrel := fun _ => fwMay (w.pubrel _)
    willTopic := fun _ _ _ _ _ _ => quiet_connect w _ _
    willMsg := fun _ _ _ => ⟨quiet_connect w _ _, .free trivial (w.connect _)⟩ }

theorem fwAuthd (c : Cfg) (R : List (Bytes × UInt16)) (f : ConnFields) : (fwFrame w c).Authd R f :=
  ⟨fun _ => quiet_connect w _ _, fun _ => ⟨quiet_connect w _ _, .free trivial (w.connect f)⟩⟩

theorem fwConn (c : Cfg) : (fwFrame w c).ConnSites := .of_authd (fun _ _ => quiet_connect w _ _) (fwAuthd w c)

theorem fwAdmits (c : Cfg) (p : Pkt) : (fwFrame w c).Admits p :=
  ⟨.of_authd (fwAuthd w c) (fun _ _ _ _ _ _ => fwMay (w.publish ..)) (.free trivial w.disconnect),
   .of_true (fun _ => trivial) fun _ => trivial⟩

variable {w}

theorem FW.of_fr {n : Nat} {g g' : Gw} (h : Fr (fwFrame w g.cfg) n g g') : FW w n g g' :=
  ⟨fun hA => by
    obtain ⟨hI, new, e, _, hl⟩ := h ⟨rfl, trivial, trivial, fun _ _ => trivial, hA⟩
    exact ⟨hI.txs, new.filter (isWatched w), by unfold watched; rw [e, List.filter_append], hl⟩⟩

theorem FW.inv {n : Nat} {g g' : Gw} (h : FW w n g g') (hA : AllQuiet w g) : AllQuiet w g' := (h.keep hA).1
theorem FW.comp {m n : Nat} {a b c : Gw} (h1 : FW w m a b) (h2 : FW w n b c) : FW w (m + n) a c := by
  refine ⟨fun hA => ?_⟩
  obtain ⟨hb, n1, e1, l1⟩ := h1.keep hA
  obtain ⟨hc, n2, e2, l2⟩ := h2.keep hb
  exact ⟨hc, n2 ++ n1, by rw [e2, e1, List.append_assoc],
    by rw [List.length_append, Nat.add_comm m n]; exact Nat.add_le_add l2 l1⟩
theorem FW.mono {n m : Nat} {g g' : Gw} (h : FW w n g g') (hnm : n ≤ m) : FW w m g g' :=
  ⟨fun hA => by obtain ⟨hb, n1, e1, l1⟩ := h.keep hA; exact ⟨hb, n1, e1, Nat.le_trans l1 hnm⟩⟩
theorem FW.trans {a b c : Gw} (h1 : FW w 0 a b) (h2 : FW w 0 b c) : FW w 0 a c := h1.comp h2
theorem FW.before {n : Nat} {a b c : Gw} (h1 : FW w 0 a b) (h2 : FW w n b c) : FW w n a c :=
  (h1.comp h2).mono (Nat.le_of_eq (Nat.zero_add n))
theorem FW.after {n : Nat} {a b c : Gw} (h1 : FW w n a b) (h2 : FW w 0 b c) : FW w n a c := h1.comp h2
theorem FW.same {g g' : Gw} (h : FW w 0 g g') (hA : AllQuiet w g) : watched w g' = watched w g := by
  obtain ⟨_, n1, e1, l1⟩ := h.keep hA
  have : n1 = [] := List.eq_nil_of_length_eq_zero (Nat.le_zero.mp l1)
  rw [e1, this]; rfl
variable (w)

theorem FW.refl (g : Gw) : FW w 0 g g := ⟨fun h => ⟨h, [], rfl, Nat.le_refl _⟩⟩
theorem FW.of_eq {g g' : Gw} (ho : g'.outs = g.outs) (ht : g'.txs = g.txs) : FW w 0 g g' :=
  ⟨fun h => ⟨by unfold AllQuiet; rw [ht]; exact h, [], by unfold watched; rw [ho]; rfl, Nat.le_refl _⟩⟩

/-! ### `FW w` of one call of each model function (from `fwFrame w`) -/

theorem FW.emit (g : Gw) (o : Out) (h : isWatched w (g.now, o) = false) : FW w 0 g (g.emit o) :=
  ⟨fun hA => ⟨hA, [], List.filter_cons_of_neg (ne_true_of_eq_false h), Nat.le_refl _⟩⟩
theorem FW.snSend (g : Gw) (p : Pkt) (tx : Option Nat) : FW w 0 g (g.snSend p tx) := .of_fr (Fr.snSend g p tx trivial)
theorem FW.snSendNow (g : Gw) (p : Pkt) : FW w 0 g (g.snSendNow p) := .of_fr (Fr.snSendNow g p trivial trivial)
theorem FW.mqttSend (g : Gw) (p : MqPkt) (h : w.W p = false) : FW w 0 g (g.mqttSend p) := .of_fr (Fr.mqttSend g p (.free trivial h))
theorem FW.mqttSendC (g : Gw) (p : MqPkt) : FW w (if w.W p then 1 else 0) g (g.mqttSend p) :=
  .of_fr (Fr.mqttSend g p (fwMay (Nat.le_refl _)))
theorem FW.setNow (g : Gw) (t : Nat) : FW w 0 g (g.setNow t) := FW.of_eq w rfl rfl
theorem FW.fail (g : Gw) (c : EndCls) : FW w 0 g (g.fail c) := .of_fr (Fr.fail g c)
theorem FW.finishTx (g : Gw) (id : Nat) : FW w 0 g (g.finishTx id) := .of_fr (Fr.finishTx g id)
theorem FW.cancelSleepPinger (g : Gw) : FW w 0 g g.cancelSleepPinger := FW.of_eq w rfl rfl
theorem FW.startSleepPinger (g : Gw) (d : UInt16) : FW w 0 g (g.startSleepPinger d) := FW.of_eq w rfl rfl
theorem FW.armSleepPinger (g : Gw) (d : UInt16) : FW w 0 g (g.armSleepPinger d) := .of_fr (Fr.armSleepPinger g d)
theorem FW.pingBroker (g : Gw) : FW w 0 g g.pingBroker := .of_fr (Fr.pingBroker (fwSites w _) g)
theorem FW.keepBrokerAlive (g : Gw) : FW w 0 g g.keepBrokerAlive := .of_fr (Fr.keepBrokerAlive (fwSites w _) g)
theorem FW.proceedSN (g : Gw) (id : Nat) (s : BpSt) (p : Pkt) : FW w 0 g (g.proceedSN id s p) :=
  .of_fr (Fr.proceedSN g id s p trivial fun _ => quiet_bp w fun _ => nofun)
theorem FW.proceedMQ (g : Gw) (id : Nat) (s : BpSt) (p : MqPkt) (h : w.W p = false) : FW w 0 g (g.proceedMQ id s p) :=
  .of_fr (Fr.proceedMQ g id s p (.free trivial h) fun _ => quiet_bp w fun _ e => by cases e; exact h)
theorem FW.bpRegack (g : Gw) (t : Tx) (q : UInt8) (s : BpSt) (d : BpData) (snp : Option Pkt) (rc : UInt8) :
    FW w 0 g (g.bpRegack t q s d snp rc) :=
  .of_fr (Fr.bpRegack (fwSites w _) g t q s d snp rc fun _ _ _ _ _ => ⟨0, quiet_bp w fun _ => nofun⟩)
theorem FW.handleClientPublish (g : Gw) (dup : Bool) (q : UInt8) (r : Bool) (tit : UInt8) (tid mid : UInt16) (d : Bytes) :
    FW w w.nPub g (g.handleClientPublish dup q r tit tid mid d) :=
  .of_fr (Fr.handleClientPublish (fwSites w _) g dup q r tit tid mid d fun _ _ _ => fwMay (w.publish ..))
theorem FW.handleSubscribe (g : Gw) (dup : Bool) (q tit : UInt8) (mid tid : UInt16) (n : Bytes) :
    FW w w.nSub g (g.handleSubscribe dup q tit mid tid n) := .of_fr (Fr.handleSubscribe (fwSites w _) g dup q tit mid tid n)
theorem FW.handleUnsubscribe (g : Gw) (tit : UInt8) (mid tid : UInt16) (n : Bytes) :
    FW w w.nUnsub g (g.handleUnsubscribe tit mid tid n) := .of_fr (Fr.handleUnsubscribe (fwSites w _) g tit mid tid n)
theorem FW.handleRegister (g : Gw) (mid : UInt16) (n : Bytes) : FW w 0 g (g.handleRegister mid n) :=
  .of_fr (Fr.handleRegister (fwSites w _) g mid n)
theorem FW.handleBrokerPublish (g : Gw) (dup : Bool) (q : UInt8) (r : Bool) (mid : UInt16) (tp pl : Bytes) :
    FW w 0 g (g.handleBrokerPublish dup q r mid tp pl) := .of_fr (Fr.handleBrokerPublish (fwSites w _) g dup q r mid tp pl)
theorem FW.connAuth (g : Gw) (t : Tx) (st : ConnSt) (f : ConnFields) (m d : Bytes) : FW w 0 g (g.connAuth t st f m d) :=
  .of_fr (Fr.connAuth SnSites.top g t st f m d fun _ _ _ => fwAuthd w _ _ _)
theorem FW.connWillTopic (g : Gw) (t : Tx) (st : ConnSt) (f : ConnFields) (q : UInt8) (r : Bool) (tp : Bytes) :
    FW w 0 g (g.connWillTopic t st f q r tp) :=
  .of_fr (Fr.connWillTopic (fwSites w _) g t st f q r tp fun _ => quiet_connect w _ _)
theorem FW.connWillMsg (g : Gw) (t : Tx) (st : ConnSt) (f : ConnFields) (m : Bytes) : FW w 0 g (g.connWillMsg t st f m) :=
  .of_fr (Fr.connWillMsg (fwSites w _) g t st f m fun _ => quiet_connect w _ _)
theorem FW.connConnack (g : Gw) (t : Tx) (st : ConnSt) (rc : UInt8) : FW w 0 g (g.connConnack t st rc) :=
  .of_fr (Fr.connConnack SnSites.top g t st rc fun _ _ => trivial)
theorem FW.handleConnect (g : Gw) (will clean : Bool) (dur : UInt16) (cid : Bytes) :
    FW w 0 g (g.handleConnect will clean dur cid) := .of_fr (Fr.handleConnect SnSites.top (fwConn w _) g will clean dur cid fun _ => trivial)
theorem FW.handlePingreq (g : Gw) : FW w 0 g g.handlePingreq := .of_fr (Fr.handlePingreq (fwSites w _) g fun _ _ => trivial)
theorem FW.handleDisconnect (g : Gw) (d : UInt16) : FW w 0 g (g.handleDisconnect d) :=
  .of_fr (Fr.handleDisconnect (fwSites w _) g d (fun _ => ⟨.free trivial w.disconnect, trivial⟩) fun _ => ⟨trivial, trivial⟩)
theorem FW.retryExpire (g : Gw) (t : Tx) (ht : t ∈ g.txs) : FW w 0 g (g.retryExpire t) :=
  .of_fr (Fr.retryExpire (fwSites w _) g t ht)
theorem FW.fireDue (g : Gw) (d : Due) : FW w 0 g (g.fireDue d) := .of_fr (Fr.fireDue (fwSites w _) g d)
theorem FW.advance : ∀ (fuel : Nat) (g : Gw) (t : Nat), FW w 0 g (advance fuel g t) :=
  fun fuel g t => .of_fr (Fr.advance (fwSites w _) t fuel g)
theorem FW.sample (g : Gw) : FW w 0 g g.sample := .of_fr (Fr.sample g)

theorem FW.step (g : Gw) (t : Nat) (ev : Event) : FW w (wEvent w ev) g (g.step t ev) :=
  .of_fr (Fr.step (fwSites w _) (fwConn w _) g t ev (Frame.admitsEv_all (fwAdmits w _) trivial ev))

/-- a whole run: the invariant at its end, and the watched packets written within the budgets of its events -/
theorem fw_run (cfg : Cfg) (a b : UInt16) (evs : List (Nat × Event)) :
    (fwFrame w cfg).Inv ((Gw.init cfg a b).run evs) ∧
    (fwFrame w cfg).News (evs.map fun e => wEvent w e.2).sum ((Gw.init cfg a b).run evs).outs :=
  Fr.run_init (fwSites w cfg) (fwConn w cfg) evs (fun e _ => Frame.admitsEv_all (fwAdmits w cfg) trivial e.2) a b
    trivial trivial

theorem allQuiet_run (cfg : Cfg) (a b : UInt16) (evs : List (Nat × Event)) : AllQuiet w ((Gw.init cfg a b).run evs) :=
  (fw_run w cfg a b evs).1.txs

theorem watched_unchanged (cfg : Cfg) (a b : UInt16) (hist : List (Nat × Event)) (t : Nat) (ev : Event)
    (hev : wEvent w ev = 0) :
    watched w (((Gw.init cfg a b).run hist).step t ev) = watched w ((Gw.init cfg a b).run hist) := by
  have h := FW.step w ((Gw.init cfg a b).run hist) t ev
  rw [hev] at h
  exact h.same (allQuiet_run w cfg a b hist)

theorem watched_step (cfg : Cfg) (a b : UInt16) (hist : List (Nat × Event)) (t : Nat) (ev : Event) :
    ∃ new, watched w (((Gw.init cfg a b).run hist).step t ev) = new ++ watched w ((Gw.init cfg a b).run hist) ∧
      new.length ≤ wEvent w ev := by
  obtain ⟨_, new, e, l⟩ := (FW.step w ((Gw.init cfg a b).run hist) t ev).keep (allQuiet_run w cfg a b hist)
  exact ⟨new, e, l⟩

theorem watched_bounded (cfg : Cfg) (a b : UInt16) (evs : List (Nat × Event)) :
    (watched w ((Gw.init cfg a b).run evs)).length ≤ (evs.map fun e => wEvent w e.2).sum :=
  (fw_run w cfg a b evs).2.2

end Bisquitt.Gw
