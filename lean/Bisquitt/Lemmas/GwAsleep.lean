/-
  C11: while the client is asleep (`st = asleep`) the model functions put no datagram on the wire — what
  they would send is queued (`snSend`); MQTT packets to the broker are not datagrams.  `snOuts` is the
  datagram part of the output log.  `sleepFrame` is the frame (`Lemmas/GwFrame.lean`) whose invariant is "the
  client is asleep" and which lets nothing onto the wire; it refuses the handlers that wake the client or answer
  it at once (CONNECT, PINGREQ, DISCONNECT) and the broker's CONNACK 0.
-/
import Bisquitt.Lemmas.GwFrame

namespace Bisquitt.Gw
open Bisquitt Gw

def isSnOut (o : Nat × Out) : Bool := match o.2 with | .sn _ => true | _ => false

/-- the datagrams sent so far (newest first) -/
def snOuts (g : Gw) : List (Nat × Out) := g.outs.filter isSnOut

@[simp] theorem snOuts_newTx (g : Gw) (k : TxKind) (key : TxKey) (tm : Option Nat) : snOuts (g.newTx k key tm).2 = snOuts g := rfl
@[simp] theorem snOuts_storeById (g : Gw) (m : UInt16) (id : Nat) : snOuts (g.storeById m id) = snOuts g := rfl
@[simp] theorem snOuts_storeByIdB (g : Gw) (m : UInt16) (id : Nat) : snOuts (g.storeByIdB m id) = snOuts g := rfl
@[simp] theorem snOuts_setConnectTx (g : Gw) (id : Nat) : snOuts (g.setConnectTx id) = snOuts g := rfl

def sleepFrame (c : Cfg) : Frame :=
  { cfg := c, St := (· = .asleep), Wire := fun _ => False, notAsleep := fun _ _ hs hn => absurd hs hn }

theorem sleepSites (c : Cfg) : (sleepFrame c).Sites :=
  Frame.sites_of (fun _ _ => trivial) (fun _ => trivial) (fun _ => trivial) fun _ _ => .free trivial
theorem sleepConn (c : Cfg) : (sleepFrame c).ConnSites := Frame.conn_of (fun _ _ => trivial) fun _ _ => .free trivial

/-- the client packets that end or interrupt a sleep: they are answered (C11: `c11_wake`,
    `c11_repeated_sleep_request`; CONNECT: C07) -/
def wakesOrAnswers : Pkt → Bool
  | .pingreq _ => true
  | .connect .. => true
  | .disconnect _ => true
  | _ => false

theorem sleepAdmits (c : Cfg) {p : Pkt} (hp : wakesOrAnswers p = false) : (sleepFrame c).Admits p where
  toAdmitsPkt := .of_true (fun _ _ => trivial) fun _ _ => .free trivial
  connect := fun _ _ _ _ _ e => by subst e; cases hp
  pingreq := fun _ e => by subst e; cases hp
  leave := fun e => by subst e; cases hp
  sleep := fun _ e => by subst e; cases hp

theorem filter_isSnOut {c : Cfg} {new : List (Nat × Out)} (h : ∀ o ∈ new, (sleepFrame c).OutOk o.2) :
    new.filter isSnOut = [] :=
  List.filter_eq_nil_iff.mpr fun o ho hc => by
    unfold isSnOut at hc
    split at hc
    · rename_i heq
      have := h o ho
      rw [heq] at this
      exact this.elim fun _ hp => hp.2.1
    · cases hc

theorem asleep_of_fr {n : Nat} {g g' : Gw} (h : Fr (sleepFrame g.cfg) n g g') (hs : g.st = .asleep) :
    g'.st = .asleep ∧ snOuts g' = snOuts g := by
  obtain ⟨hI, new, e, hn, _⟩ := h ⟨rfl, hs, trivial, fun _ _ => trivial, fun _ _ => trivial⟩
  exact ⟨hI.st, by unfold snOuts; rw [e, List.filter_append, filter_isSnOut hn]; rfl⟩

end Bisquitt.Gw
