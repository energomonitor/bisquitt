/-
  Frames.  Most all-runs theorems about the gateway model have one shape: an invariant on the kind of every stored
  exchange, on every queued packet, the client's state and the topic tables, a permission for every output
  written, and a bound on how many outputs of some kind a step may add.  A `Frame` names these for one
  configuration; `Fr F n g g'` says that going from `g` to `g'` keeps the invariant, writes permitted outputs only
  and at most `n` counted ones.  `Sites` / `ConnSites` list what the emission and store sites of `Model/Gateway.lean`
  need for that (the obligations depend on the frame, the walk through the model's functions does not), and the
  walk is done once, here, from the senders up to `Gw.step` and `Gw.run`.

  (How a new all-runs property is stated with these, and its shortest example, is in DESIGN.md §0.2.)

  What a frame cannot say: a site passes on what the model knows where it builds a packet, and no more (`SnSites.regack`
  is asked for every return code, `ConnSites` for every keep-alive); `Sn` and `Mq` do not see the state; the
  components of `Inv` are independent of one another; `K` sees the kind of an exchange, not its id, timer or `done`.
  A property that needs one of these needs a change of the walk, or a walk of its own as `F9` of
  `Lemmas/GwConnCount.lean` has.
-/
import Bisquitt.Lemmas.GwBasics

namespace Bisquitt.Gw
open Bisquitt Gw

structure Frame where
  cfg : Cfg
  /-- every stored exchange, given the names the gateway has reserved an ID for (`regIds`).  A retransmission
      re-sends what the exchange holds on the strength of `K` alone (`retrySn`, `retryMq`): where `Sn` or `Mq` ask
      something, `K` has to remember it for the packet held -/
  K : List (Bytes × UInt16) → TxKind → Prop := fun _ _ => True
  Tb : TopicTables → Prop := fun _ => True
  St : CState → Prop := fun _ => True
  /-- every datagram sent to the client or queued for it -/
  Sn : Pkt → Prop := fun _ => True
  /-- the datagrams that may be put on the wire, not only queued -/
  Wire : Pkt → Prop := fun _ => True
  /-- every packet written to the broker -/
  Mq : MqPkt → Prop := fun _ => True
  /-- the packets to the broker that are counted -/
  W : MqPkt → Bool := fun _ => false
  /-- `nPub` … `nRel`: how many counted packets the handler of a client's PUBLISH, SUBSCRIBE, UNSUBSCRIBE, PUBREL
      may write -/
  nPub : Nat := 0
  nSub : Nat := 0
  nUnsub : Nat := 0
  nRel : Nat := 0
  /-- a client that is not asleep gets its datagrams at once -/
  notAsleep : ∀ s p, St s → s ≠ .asleep → Sn p → Wire p := by intros; trivial

namespace Frame
variable (F : Frame)

def OutOk : Out → Prop
  | .sn b => ∃ p, F.Sn p ∧ F.Wire p ∧ b = encode p
  | .mq p => F.Mq p
  | _ => True

structure Inv (g : Gw) : Prop where
  cfg : g.cfg = F.cfg
  st : F.St g.st
  tb : F.Tb g.topicTables
  buf : ∀ it ∈ g.buffer, F.Sn it.pkt
  txs : ∀ t ∈ g.txs, F.K g.regIds t.kind

def counted (o : Nat × Out) : Bool := match o.2 with | .mq p => F.W p | _ => false

/-- `p` may be written to the broker where the budget is `n` -/
def May (n : Nat) (p : MqPkt) : Prop := F.Mq p ∧ (F.W p = true → 0 < n)

def News (n : Nat) (new : List (Nat × Out)) : Prop :=
  (∀ o ∈ new, F.OutOk o.2) ∧ (new.filter F.counted).length ≤ n

/-- an authenticated connect exchange goes on with the will, or writes its CONNECT -/
def Authd (R : List (Bytes × UInt16)) (f : ConnFields) : Prop :=
  (f.will = true → F.K R (.connect .awaitingWillTopic f)) ∧
  (f.will = false → F.K R (.connect .awaitingConnack f) ∧ F.May 0 f.toPkt)

def budget : Pkt → Nat
  | .publish .. => F.nPub
  | .subscribe .. => F.nSub
  | .unsubscribe .. => F.nUnsub
  | .pubrel _ => F.nRel
  | _ => 0

def evBudget : Event → Nat
  | .sn bytes => match decode (bytes.take Gen.MaxPacketLen) with
    | .ok (_, p) => F.budget p
    | _ => 0
  | _ => 0

end Frame

def Fr (F : Frame) (n : Nat) (g g' : Gw) : Prop :=
  F.Inv g → F.Inv g' ∧ ∃ new, g'.outs = new ++ g.outs ∧ F.News n new

/-- the acknowledgements the gateway passes on to the broker for the client -/
inductive IsAck : MqPkt → Prop
  | puback (m : UInt16) : IsAck (.puback m)
  | pubrec (m : UInt16) : IsAck (.pubrec m)
  | pubcomp (m : UInt16) : IsAck (.pubcomp m)

/-- the datagrams the model builds, with what it knows about their fields where it builds them -/
structure SnSites (Sn : Pkt → Prop) : Prop where
  connack : ∀ rc, Sn (.connack rc)
  willtopicreq : Sn .willtopicreq
  willmsgreq : Sn .willmsgreq
  regack : ∀ id mid rc, Sn (.regack id mid rc)
  suback : ∀ q id mid rc, q ≤ 2 → Sn (.suback q id mid rc)
  puback : ∀ id mid rc, Sn (.puback id mid rc)
  pubrec : ∀ mid, Sn (.pubrec mid)
  pubcomp : ∀ mid, Sn (.pubcomp mid)
  pubrel : ∀ mid, Sn (.pubrel mid)
  unsuback : ∀ mid, Sn (.unsuback mid)
  pingresp : Sn .pingresp
  disconnect0 : Sn (.disconnect 0)
  publish : ∀ dup q r tit tid mid data, q ≤ 2 → tit ≤ 2 → data.length ≤ Gen.MaxPayloadLength →
    Sn (.publish dup q r tit tid mid data)
  register : ∀ tid mid name, name ≠ [] → name.length ≤ Gen.MaxPayloadLength → Sn (.register tid mid name)

theorem SnSites.top : SnSites fun _ => True :=
  ⟨fun _ => trivial, trivial, trivial, fun _ _ _ => trivial, fun _ _ _ _ _ => trivial, fun _ _ _ => trivial,
   fun _ => trivial, fun _ => trivial, fun _ => trivial, fun _ => trivial, trivial, trivial,
   fun _ _ _ _ _ _ _ _ _ _ => trivial, fun _ _ _ _ _ => trivial⟩

/-- the sites that change the topic tables: a fresh ID is bound to a name (SUBSCRIBE, REGISTER) or there is none
    left; the REGACK of the gateway's own REGISTER binds the reserved ID; a name gets its reservation.  A frame that
    does not look at the tables has them for nothing. -/
structure Frame.TableSites (F : Frame) : Prop where
  alloc : ∀ g id g' name, F.Inv g → g.newTopicId = (some id, g') → F.Tb (g'.storeRegistered id name).topicTables := by
    intros; trivial
  allocFail : ∀ g g', F.Inv g → g.newTopicId = (none, g') → F.Tb g'.topicTables := by intros; trivial
  regAck : ∀ g q tid m name snp n, F.Inv g →
    F.K g.regIds (.brokerPub q .awaitingRegack (.sn (.register tid m name)) snp n) →
    F.Tb (g.storeRegistered tid name).topicTables := by intros; trivial
  reserve : ∀ g topic r g', F.Inv g → g.registrationTopicId topic = (r, g') →
    F.Tb g'.topicTables ∧ ∀ k, F.K g.regIds k → F.K g'.regIds k := by intros; exact ⟨trivial, fun _ h => h⟩

/-- the sites that are the same for every configuration: the exchanges opened for the client's and the broker's
    messages (what is stored, and what a retransmission may rely on), the packets forwarded to the broker, the
    will packets of a connect exchange -/
structure Frame.Sites (F : Frame) : Prop extends SnSites F.Sn, F.TableSites where
  kClientPub1 : ∀ {R} tid, F.K R (.clientPub1 tid)
  kSubscribe : ∀ {R} tid, F.K R (.subscribe tid)
  bpNew : ∀ {R} q st snp, (∀ p, snp = some p → F.Sn p) → F.K R (.brokerPub q st .none snp 0)
  /-- the one step that awaits a REGACK sends the REGISTER of a name the gateway has reserved the ID for -/
  bpSn : ∀ {R q st0 d0 snp n} st p, F.K R (.brokerPub q st0 d0 snp n) → F.Sn p →
    (st = .awaitingRegack → ∃ tid m name, p = .register tid m name ∧ R.lookup name = some tid) →
    F.K R (.brokerPub q st (.sn p) snp 0)
  bpAck : ∀ {R q st0 d0 snp n} st p, IsAck p → F.K R (.brokerPub q st0 d0 snp n) →
    F.K R (.brokerPub q st (.mq p) snp 0)
  bpSnp : ∀ {R q st d p n}, F.K R (.brokerPub q st d (some p) n) → F.Sn p
  /-- a retransmission with budget left (the branch `retryExpire` takes when `n + 1 ≤ RetryCount`) -/
  retrySn : ∀ {R q st p snp n}, F.K R (.brokerPub q st (.sn p) snp n) → n + 1 ≤ F.cfg.retryCount →
    F.Sn (setDup p) ∧ F.K R (.brokerPub q st (.sn (setDup p)) snp (n + 1))
  retryMq : ∀ {R q st p snp n}, F.K R (.brokerPub q st (.mq p) snp n) → n + 1 ≤ F.cfg.retryCount →
    F.May 0 p ∧ F.K R (.brokerPub q st (.mq p) snp (n + 1))
  mqAck : ∀ p, IsAck p → F.May 0 p
  mqPingreq : F.May 0 .pingreq
  mqSubscribe : ∀ mid dup topic q, topic ≠ [] → q ≤ 2 → F.May F.nSub (.subscribe mid dup topic q)
  mqUnsubscribe : ∀ mid topic, topic ≠ [] → F.May F.nUnsub (.unsubscribe mid topic)
  mqPubrel : ∀ mid, F.May F.nRel (.pubrel mid)
  willTopic : ∀ {R} f q r topic, F.K R (.connect .awaitingWillTopic f) → q ≤ 2 →
    F.K R (.connect .awaitingWillMsg
      (if topic.isEmpty then { f with will := false } else { f with wq := q, wr := r, wt := topic }))
  willMsg : ∀ {R} f msg, F.K R (.connect .awaitingWillMsg f) →
    F.K R (.connect .awaitingConnack (if f.will then { f with wm := msg } else f)) ∧
    F.May 0 (if f.will then { f with wm := msg } else f).toPkt

/-- where a connect exchange starts: waiting for AUTH, or authenticated at once -/
structure Frame.ConnSites (F : Frame) : Prop where
  new : ∀ {R}, F.cfg.auth = true → ∀ w cl d cid, F.K R (.connect .awaitingAuth (mkConnFields F.cfg w cl d cid))
  noAuth : ∀ {R}, F.cfg.auth = false → ∀ w cl d cid, F.Authd R (mkConnFields F.cfg w cl d cid)

/-- the packet sites a frame may have to refuse, or may admit for some packets only, each reached from the handler
    of one packet type: a well-formed AUTH authenticates the exchange; a PUBLISH on a topic that resolves is
    forwarded; so is a plain DISCONNECT -/
structure Frame.AdmitsPkt (F : Frame) (p : Pkt) : Prop where
  auth : ∀ {R} x m d, p = .auth x m d → ∀ f u pw, F.K R (.connect .awaitingAuth f) →
    F.Authd R { f with uflag := true, user := u, pflag := true, pass := pw }
  publish : ∀ dup q r tit tid mid d, p = .publish dup q r tit tid mid d → ∀ topic, topic ≠ [] →
    hasWildcard topic = false → F.May F.nPub (.publish dup (mqQos q) r (if mqQos q = 0 then 0 else mid) topic d)
  mqDisconnect : p = .disconnect 0 → F.May 0 .disconnect

/-- the handlers that change the client's state: a CONNECT brings a sleeping client back; a PINGREQ wakes it up for
    a moment; a plain DISCONNECT ends the session; one with a duration (legal only once connected) puts the client to
    sleep and is answered on the wire -/
structure Frame.AdmitsSt (F : Frame) (p : Pkt) : Prop where
  connect : ∀ w c x d cid, p = .connect w c x d cid → ∀ s, F.St s → s = .awake ∨ s = .asleep → F.St .active
  pingreq : ∀ x, p = .pingreq x → F.St .asleep → F.St .awake
  leave : p = .disconnect 0 → F.St .disconnected
  sleep : ∀ d, p = .disconnect d → d ≠ 0 → ∀ s, F.St s → s ≠ .disconnected → F.St .asleep ∧ F.Wire (.disconnect 0)

structure Frame.Admits (F : Frame) (p : Pkt) : Prop extends F.AdmitsPkt p, F.AdmitsSt p

/-- the same for an event: for the client packet it decodes to; the broker's CONNACK 0 activates the session -/
def Frame.AdmitsEv (F : Frame) : Event → Prop
  | .sn bytes => ∀ h p, decode (bytes.take Gen.MaxPacketLen) = .ok (h, p) → F.Admits p
  | .mq (.connack 0) => F.St .active
  | _ => True

variable {F : Frame}

theorem Frame.AdmitsEv.intro (ev : Event) (hc : ev = .mq (.connack 0) → F.St .active)
    (h : ∀ bytes hd p, ev = .sn bytes → decode (bytes.take Gen.MaxPacketLen) = .ok (hd, p) → F.Admits p) :
    F.AdmitsEv ev := by
  unfold Frame.AdmitsEv
  split
  · exact fun hd p hdec => h _ hd p rfl hdec
  · exact hc rfl
  · trivial

theorem Frame.May.free {n : Nat} {p : MqPkt} (h : F.Mq p) (hw : F.W p = false := by rfl) : F.May n p :=
  ⟨h, fun e => absurd (hw.symm.trans e) Bool.false_ne_true⟩

theorem Frame.news_nil (F : Frame) : F.News 0 [] := ⟨(fun _ h => nomatch h), Nat.le_refl _⟩

theorem Fr.refl (g : Gw) : Fr F 0 g g := fun h => ⟨h, [], rfl, F.news_nil⟩

theorem Fr.comp {m n : Nat} {a b c : Gw} (h1 : Fr F m a b) (h2 : Fr F n b c) : Fr F (m + n) a c := by
  intro hI
  obtain ⟨hb, n1, e1, p1, l1⟩ := h1 hI
  obtain ⟨hc, n2, e2, p2, l2⟩ := h2 hb
  refine ⟨hc, n2 ++ n1, by rw [e2, e1, List.append_assoc], fun o ho => (List.mem_append.mp ho).elim (p2 o) (p1 o), ?_⟩
  rw [List.filter_append, List.length_append, Nat.add_comm m n]
  exact Nat.add_le_add l2 l1

theorem Fr.mono {m n : Nat} {g g' : Gw} (h : Fr F m g g') (hmn : m ≤ n) : Fr F n g g' := fun hI => by
  obtain ⟨hb, new, e, p, l⟩ := h hI
  exact ⟨hb, new, e, p, Nat.le_trans l hmn⟩
theorem Fr.trans {a b c : Gw} (h1 : Fr F 0 a b) (h2 : Fr F 0 b c) : Fr F 0 a c := h1.comp h2
theorem Fr.before {n : Nat} {a b c : Gw} (h1 : Fr F 0 a b) (h2 : Fr F n b c) : Fr F n a c :=
  (h1.comp h2).mono (Nat.le_of_eq (Nat.zero_add n))
theorem Fr.after {n : Nat} {a b c : Gw} (h1 : Fr F n a b) (h2 : Fr F 0 b c) : Fr F n a c := h1.comp h2
theorem Fr.zero {n : Nat} {g g' : Gw} (h : Fr F 0 g g') : Fr F n g g' := h.mono (Nat.zero_le n)

/-- for the `if`s of the model's functions: `split` on an `if` inside a large unfolded body is slow to check (its
    simplifier pass compares every nested condition with every hypothesis).  `split` stays for `match`, after an
    `unfold`; a function that begins with an `if` is unfolded by the unifier. -/
theorem Fr.ite {n : Nat} {g a b : Gw} {c : Prop} [Decidable c] (ha : c → Fr F n g a) (hb : ¬c → Fr F n g b) :
    Fr F n g (if c then a else b) := by
  split
  · exact ha ‹_›
  · exact hb ‹_›

theorem Fr.of_eq {g g' : Gw} (hc : g'.cfg = g.cfg) (hs : g'.st = g.st) (hv : g'.topicTables = g.topicTables)
    (ho : g'.outs = g.outs) (hb : g'.buffer = g.buffer) (ht : g'.txs = g.txs) : Fr F 0 g g' :=
  fun hI => ⟨⟨hc.trans hI.cfg, hs ▸ hI.st, hv ▸ hI.tb, hb ▸ hI.buf,
    (show g'.regIds = g.regIds from congrArg TopicTables.regIds hv) ▸ ht ▸ hI.txs⟩, [], ho, F.news_nil⟩

theorem Fr.of_queue {g g' : Gw} (hc : g'.cfg = g.cfg) (hs : g'.st = g.st) (hv : g'.topicTables = g.topicTables)
    (ho : g'.outs = g.outs) (ht : g'.txs = g.txs) (hb : ∀ it ∈ g'.buffer, F.Sn it.pkt ∨ it ∈ g.buffer) : Fr F 0 g g' :=
  fun hI => ⟨⟨hc.trans hI.cfg, hs ▸ hI.st, hv ▸ hI.tb, fun it h => (hb it h).elim id (hI.buf it),
    (show g'.regIds = g.regIds from congrArg TopicTables.regIds hv) ▸ ht ▸ hI.txs⟩, [], ho, F.news_nil⟩

theorem Fr.setSt (g : Gw) (s : CState) (h : F.St s) : Fr F 0 g (g.setSt s) :=
  fun hI => ⟨⟨hI.cfg, h, hI.tb, hI.buf, hI.txs⟩, [], rfl, F.news_nil⟩
theorem Fr.setNow (g : Gw) (t : Nat) : Fr F 0 g (g.setNow t) := Fr.of_eq rfl rfl rfl rfl rfl rfl
theorem Fr.storeById (g : Gw) (m : UInt16) (id : Nat) : Fr F 0 g (g.storeById m id) := Fr.of_eq rfl rfl rfl rfl rfl rfl
theorem Fr.storeByIdB (g : Gw) (m : UInt16) (id : Nat) : Fr F 0 g (g.storeByIdB m id) := Fr.of_eq rfl rfl rfl rfl rfl rfl
theorem Fr.setConnectTx (g : Gw) (id : Nat) : Fr F 0 g (g.setConnectTx id) := Fr.of_eq rfl rfl rfl rfl rfl rfl

theorem Fr.emit (g : Gw) (o : Out) {n : Nat} (h : F.OutOk o) (hn : F.counted (g.now, o) = true → 0 < n) :
    Fr F n g (g.emit o) := by
  refine fun hI => ⟨⟨hI.cfg, hI.st, hI.tb, hI.buf, hI.txs⟩, [(g.now, o)], rfl, fun x hx => ?_, ?_⟩
  · rw [List.mem_singleton.mp hx]; exact h
  · rw [List.filter_cons]; split
    · exact hn ‹_›
    · exact Nat.zero_le n

theorem Fr.snSend (g : Gw) (p : Pkt) (tx : Option Nat) (h : F.Sn p) : Fr F 0 g (g.snSend p tx) := by
  unfold Gw.snSend
  refine Fr.ite (fun _ hI => ⟨⟨hI.cfg, hI.st, hI.tb, fun it hit => ?_, hI.txs⟩, [], rfl, F.news_nil⟩)
    fun hs hI => Fr.emit g _ ⟨p, h, F.notAsleep _ p hI.st hs h, rfl⟩ nofun hI
  rcases List.mem_append.mp hit with h1 | h1
  · exact hI.buf it h1
  · rw [List.mem_singleton.mp h1]; exact h

theorem Fr.snSendNow (g : Gw) (p : Pkt) (h : F.Sn p) (hw : F.Wire p) : Fr F 0 g (g.snSendNow p) :=
  Fr.emit g _ ⟨p, h, hw, rfl⟩ nofun

theorem Fr.mqttSend (g : Gw) (p : MqPkt) {n : Nat} (h : F.May n p) : Fr F n g (g.mqttSend p) :=
  Fr.emit g _ h.1 h.2

theorem Fr.setTx (g : Gw) (t : Tx) (h : F.K g.regIds t.kind) : Fr F 0 g (g.setTx t) := fun hI =>
  ⟨⟨hI.cfg, hI.st, hI.tb, hI.buf, fun x hx => (mem_setTx hx).elim (fun e => e ▸ h) (hI.txs x)⟩, [], rfl, F.news_nil⟩

theorem Fr.setTx_same (g : Gw) (t t' : Tx) (ht : t ∈ g.txs) (hk : t'.kind = t.kind) : Fr F 0 g (g.setTx t') :=
  fun hI => Fr.setTx g t' (hk ▸ hI.txs t ht) hI

theorem Fr.newTx (g : Gw) (k : TxKind) (key : TxKey) (tm : Option Nat) (h : F.K g.regIds k) :
    Fr F 0 g (g.newTx k key tm).2 := by
  refine fun hI => ⟨⟨hI.cfg, hI.st, hI.tb, hI.buf, fun x hx => ?_⟩, [], rfl, F.news_nil⟩
  rcases List.mem_append.mp hx with hx | hx
  · exact hI.txs x hx
  · rw [List.mem_singleton.mp hx]; exact h

theorem Fr.runFinally (g : Gw) (t : Tx) : Fr F 0 g (g.runFinally t) := by
  obtain ⟨a, b, c, h⟩ := runFinally_eq g t
  rw [h]
  exact Fr.of_eq rfl rfl rfl rfl rfl rfl

theorem Fr.finishTx (g : Gw) (id : Nat) : Fr F 0 g (g.finishTx id) := by
  unfold Gw.finishTx
  split
  · rename_i t ht
    exact Fr.ite (fun _ => Fr.refl g) fun _ =>
      (Fr.setTx_same g t { t with done := true, timer := none } (getTx_mem ht) rfl).trans (Fr.runFinally _ t)
  · exact Fr.refl g

theorem Fr.fail (g : Gw) (c : EndCls) : Fr F 0 g (g.fail c) := by
  unfold Gw.fail; split <;> exact Fr.of_eq rfl rfl rfl rfl rfl rfl

theorem Fr.sendAll (its : List BufItem) : ∀ g : Gw, (∀ it ∈ its, F.Sn it.pkt) →
    Fr F 0 g (its.foldl (fun acc it => acc.snSend it.pkt it.tx) g) := by
  induction its with
  | nil => intro g _; exact Fr.refl g
  | cons it rest ih =>
    intro g h
    exact (Fr.snSend g it.pkt it.tx (h it (List.mem_cons_self ..))).trans
      (ih _ fun x hx => h x (List.mem_cons_of_mem _ hx))

theorem Fr.flushBuffer (g : Gw) : Fr F 0 g g.flushBuffer := by
  intro hI
  unfold Gw.flushBuffer
  refine Fr.trans (Fr.trans (b := { g with buffer := [] }) ?_ (Fr.sendAll g.buffer _ hI.buf)) ?_ hI
  · exact Fr.of_queue rfl rfl rfl rfl rfl fun _ h => absurd h List.not_mem_nil
  · exact Fr.of_queue rfl rfl rfl rfl rfl fun _ h => absurd h List.not_mem_nil

theorem Fr.of_tables {g g' : Gw} (hc : g'.cfg = g.cfg) (hs : g'.st = g.st) (ho : g'.outs = g.outs)
    (hb : g'.buffer = g.buffer) (ht : g'.txs = g.txs)
    (hv : F.Inv g → F.Tb g'.topicTables ∧ ∀ k, F.K g.regIds k → F.K g'.regIds k) : Fr F 0 g g' :=
  fun hI => ⟨⟨hc.trans hI.cfg, hs ▸ hI.st, (hv hI).1, hb ▸ hI.buf, fun t h => (hv hI).2 _ (hI.txs t (ht ▸ h))⟩,
    [], ho, F.news_nil⟩

theorem Fr.alloc (S : F.Sites) {g g' : Gw} {id : UInt16} (h : g.newTopicId = (some id, g')) (name : Bytes) :
    Fr F 0 g (g'.storeRegistered id name) := by
  obtain ⟨s, e, h'⟩ := newTopicId_eq g
  rw [h] at h'; subst h'
  exact Fr.of_tables rfl rfl rfl rfl rfl fun hI => ⟨S.alloc g id _ name hI h, fun _ hk => hk⟩

theorem Fr.allocFail (S : F.Sites) {g g' : Gw} (h : g.newTopicId = (none, g')) : Fr F 0 g g' := by
  obtain ⟨s, e, h'⟩ := newTopicId_eq g
  rw [h] at h'; subst h'
  exact Fr.of_tables rfl rfl rfl rfl rfl fun hI => ⟨S.allocFail g _ hI h, fun _ hk => hk⟩

theorem Fr.regAck (S : F.Sites) (g : Gw) (q : UInt8) (tid m : UInt16) (name : Bytes) (snp : Option Pkt) (n : Nat)
    (h : F.K g.regIds (.brokerPub q .awaitingRegack (.sn (.register tid m name)) snp n)) :
    Fr F 0 g (g.storeRegistered tid name) :=
  Fr.of_tables rfl rfl rfl rfl rfl fun hI => ⟨S.regAck g q tid m name snp n hI h, fun _ hk => hk⟩

theorem Fr.reserve (S : F.Sites) {g g' : Gw} {topic : Bytes} {r : Option UInt16}
    (h : g.registrationTopicId topic = (r, g')) : Fr F 0 g g' := by
  obtain ⟨s, e, r', h'⟩ := registrationTopicId_eq g topic
  rw [h] at h'; subst h'
  exact Fr.of_tables rfl rfl rfl rfl rfl fun hI => S.reserve g topic r _ hI h

theorem Fr.armSleepPinger (g : Gw) (d : UInt16) : Fr F 0 g (g.armSleepPinger d) := by
  rw [armSleepPinger_eq]
  exact Fr.of_eq rfl rfl rfl rfl rfl rfl

theorem Fr.pingBroker (S : F.Sites) (g : Gw) : Fr F 0 g g.pingBroker :=
  (Fr.of_eq (g := g) (g' := { g with ownPings := g.ownPings + 1 }) rfl rfl rfl rfl rfl rfl).trans (Fr.mqttSend _ _ S.mqPingreq)

theorem Fr.keepBrokerAlive (S : F.Sites) (g : Gw) : Fr F 0 g g.keepBrokerAlive := by
  unfold Gw.keepBrokerAlive
  refine Fr.ite (fun _ => Fr.refl g) fun _ => ?_
  split
  · exact Fr.ite (fun _ => Fr.refl g) fun _ => Fr.pingBroker S g
  · exact Fr.pingBroker S g

theorem Fr.armBp (g : Gw) (t : Tx) (q : UInt8) (st : BpSt) (d : BpData) (snp : Option Pkt)
    (h : F.K g.regIds (.brokerPub q st d snp 0)) : Fr F 0 g (g.armBp t q st d snp) := by
  unfold Gw.armBp
  exact Fr.ite (fun _ => Fr.refl g) fun _ => Fr.setTx g _ h

theorem Fr.finishIfDone (g : Gw) (id : Nat) (st : BpSt) : Fr F 0 g (g.finishIfDone id st) := by
  unfold Gw.finishIfDone
  exact Fr.ite (fun _ => Fr.finishTx g id) fun _ => Fr.refl g

theorem Fr.proceedSN (g : Gw) (id : Nat) (st : BpSt) (p : Pkt) (hp : F.Sn p)
    (h : ∀ {q st0 d0 snp n}, F.K g.regIds (.brokerPub q st0 d0 snp n) → F.K g.regIds (.brokerPub q st (.sn p) snp 0)) :
    Fr F 0 g (g.proceedSN id st p) := by
  unfold Gw.proceedSN
  split
  · rename_i t ht
    split
    · rename_i q _ _ snp _ hk
      intro hI
      have hK := hI.txs t (getTx_mem ht)
      rw [hk] at hK
      exact (((Fr.armBp g t q st (.sn p) snp (h hK)).trans (Fr.snSend _ p (some id) hp)).trans
        (Fr.finishIfDone _ id st)) hI
    · exact Fr.refl g
  · exact Fr.refl g

theorem Fr.proceedMQ (g : Gw) (id : Nat) (st : BpSt) (p : MqPkt) (hp : F.May 0 p)
    (h : ∀ {q st0 d0 snp n}, F.K g.regIds (.brokerPub q st0 d0 snp n) → F.K g.regIds (.brokerPub q st (.mq p) snp 0)) :
    Fr F 0 g (g.proceedMQ id st p) := by
  unfold Gw.proceedMQ
  split
  · rename_i t ht
    split
    · rename_i q _ _ snp _ hk
      intro hI
      have hK := hI.txs t (getTx_mem ht)
      rw [hk] at hK
      exact (((Fr.armBp g t q st (.mq p) snp (h hK)).trans (Fr.mqttSend _ p hp)).trans (Fr.finishIfDone _ id st)) hI
    · exact Fr.refl g
  · exact Fr.refl g

theorem Fr.proceedAck (S : F.Sites) (g : Gw) (id : Nat) (st : BpSt) {p : MqPkt} (hp : IsAck p) :
    Fr F 0 g (g.proceedMQ id st p) :=
  Fr.proceedMQ g id st p (S.mqAck p hp) fun hK => S.bpAck st p hp hK

theorem Fr.retryExpire (S : F.Sites) (g : Gw) (t : Tx) (ht : t ∈ g.txs) : Fr F 0 g (g.retryExpire t) := by
  unfold Gw.retryExpire
  split
  · rename_i q st data snp n hk
    refine Fr.ite (fun _ => Fr.setTx_same g t _ ht rfl) fun _ => Fr.ite (fun _ => Fr.setTx_same g t _ ht rfl) fun _ =>
      Fr.ite (fun _ => Fr.finishTx g _) fun hn hI => ?_
    have hK := hI.txs t ht
    rw [hk] at hK
    have hn' : n + 1 ≤ F.cfg.retryCount := by rw [← hI.cfg]; exact Nat.le_of_not_gt hn
    -- `hI` goes back into the goal so that each branch below is again a statement `Fr F 0 g _`
    revert hI
    split
    · rename_i p _
      obtain ⟨hp, hK'⟩ := S.retrySn hK hn'
      -- the queued copies of the packet become its DUP variant (`Model/Gateway.lean`, `retryExpire`): what the queue
      -- holds afterwards is that variant, which `retrySn` permits, or was there before
      refine Fr.trans ?_ (Fr.snSend _ _ _ hp)
      refine Fr.trans ?_ (Fr.setTx _ _ hK')
      refine Fr.of_queue rfl rfl rfl rfl rfl fun it hit => ?_
      obtain ⟨b, hb, rfl⟩ := List.mem_map.mp hit
      split
      · exact .inl hp
      · exact .inr hb
    · rename_i p _
      obtain ⟨hp, hK'⟩ := S.retryMq hK hn'
      exact (Fr.setTx g _ hK').trans (Fr.mqttSend _ p hp)
    · exact Fr.finishTx g _
  · exact Fr.refl g

theorem Fr.txExpire (S : F.Sites) (g : Gw) (t : Tx) (ht : t ∈ g.txs) : Fr F 0 g (g.txExpire t) := by
  unfold Gw.txExpire
  split
  · exact Fr.ite (fun _ => Fr.setTx_same g t _ ht rfl) fun _ => (Fr.finishTx g _).trans (Fr.fail _ _)
  · exact Fr.ite (fun _ => Fr.setTx_same g t _ ht rfl) fun _ => Fr.finishTx g _
  · exact Fr.ite (fun _ => Fr.setTx_same g t _ ht rfl) fun _ => Fr.finishTx g _
  · exact Fr.retryExpire S g t ht

/-- the REGACK of the gateway's own REGISTER; `hK`: the exchange it is for is one of the session's (so its
    invariant holds) — all that is needed where it is a REGISTER exchange waiting for just that -/
theorem Fr.bpRegack (S : F.Sites) (g : Gw) (t : Tx) (q : UInt8) (st : BpSt) (d : BpData) (snp : Option Pkt) (rc : UInt8)
    (hK : ∀ tid m name, st = .awaitingRegack → d = .sn (.register tid m name) →
      ∃ n, F.K g.regIds (.brokerPub q .awaitingRegack (.sn (.register tid m name)) snp n)) :
    Fr F 0 g (g.bpRegack t q st d snp rc) := by
  unfold Gw.bpRegack
  refine Fr.ite (fun _ => Fr.refl g) fun hst => Fr.ite (fun _ => Fr.finishTx g _) fun _ => ?_
  split
  · rename_i tid m name pub
    obtain ⟨n, hK⟩ := hK tid m name (Decidable.not_not.mp hst) rfl
    refine (Fr.regAck S g q tid m name _ n hK).trans
      (Fr.proceedSN _ _ _ _ (S.bpSnp hK) fun hK' => S.bpSn _ _ hK' (S.bpSnp hK) fun e => ?_)
    -- the state after an accepted REGACK (done / awaiting PUBACK / awaiting PUBREC) is never `awaitingRegack`
    split at e
    · cases e
    · split at e <;> cases e
  · exact Fr.refl g

theorem Fr.startBrokerPub (S : F.Sites) (g : Gw) (q : UInt8) (m : UInt16) (st0 : BpSt) (snp : Option Pkt) (st : BpSt)
    (p : Pkt) (hs : ∀ p, snp = some p → F.Sn p) (hp : F.Sn p)
    (h : ∀ {q st0 d0 snp n}, F.K g.regIds (.brokerPub q st0 d0 snp n) → F.K g.regIds (.brokerPub q st (.sn p) snp 0)) :
    Fr F 0 g (g.startBrokerPub q m st0 snp st p) := by
  unfold Gw.startBrokerPub
  exact ((Fr.newTx g _ _ _ (S.bpNew q st0 snp hs)).trans (Fr.storeByIdB _ _ _)).trans (Fr.proceedSN _ _ _ _ hp h)

theorem Fr.handleBrokerPublish (S : F.Sites) (g : Gw) (dup : Bool) (q : UInt8) (r : Bool) (mid : UInt16)
    (topic payload : Bytes) : Fr F 0 g (g.handleBrokerPublish dup q r mid topic payload) := by
  unfold Gw.handleBrokerPublish
  refine Fr.ite (fun _ => Fr.refl g) fun hlen => Fr.ite (fun _ => Fr.refl g) fun hne => ?_
  have hpl : payload.length ≤ Gen.MaxPayloadLength := Nat.le_of_not_gt fun h => hlen (.inl h)
  have htl : topic.length ≤ Gen.MaxPayloadLength := Nat.le_of_not_gt fun h => hlen (.inr h)
  have hne' : topic ≠ [] := mt List.isEmpty_iff.mpr hne
  split
  · rename_i tid tit hb
    have htit := brokerTopicId_tit hb
    refine Fr.ite (fun h0 => Fr.snSend g _ none (S.publish _ _ _ _ _ _ _ (by rw [h0]; decide) htit hpl)) fun _ =>
      Fr.ite (fun _ => Fr.fail g _) fun hq => ?_
    have hp := S.publish dup q r tit tid mid payload (UInt8.not_lt.mp hq) htit hpl
    exact Fr.startBrokerPub S g _ _ _ _ _ _ (fun _ e => nomatch e) hp fun hK =>
      S.bpSn _ _ hK hp fun e => by split at e <;> cases e
  · split
    · exact Fr.fail g _
    · refine Fr.ite (fun _ => Fr.fail g _) fun hq => ?_
      split
      · rename_i h
        exact (Fr.reserve S h).trans (Fr.fail _ _)
      · rename_i h
        have hp := fun tid m => S.register tid m topic hne' htl
        refine (Fr.reserve S h).trans (Fr.startBrokerPub S _ _ _ _ _ _ _ (fun p e => ?_) (hp _ _)
          fun hK => S.bpSn _ _ hK (hp _ _) fun _ => ⟨_, _, _, rfl, registrationTopicId_reserved h⟩)
        cases e
        exact S.publish _ _ _ _ _ _ _ (UInt8.not_lt.mp hq) (by decide) hpl

theorem Fr.storeClientPub1 (S : F.Sites) (g : Gw) (q : UInt8) (tid mid : UInt16) :
    Fr F 0 g (g.storeClientPub1 q tid mid) := by
  unfold Gw.storeClientPub1
  exact Fr.ite (fun _ => (Fr.newTx g _ _ _ (S.kClientPub1 tid)).trans (Fr.storeById _ _ _)) fun _ => Fr.refl g

theorem Fr.handleClientPublish (S : F.Sites) (g : Gw) (dup : Bool) (q : UInt8) (r : Bool) (tit : UInt8)
    (tid mid : UInt16) (d : Bytes)
    (hpub : ∀ topic, topic ≠ [] → hasWildcard topic = false →
      F.May F.nPub (.publish dup (mqQos q) r (if mqQos q = 0 then 0 else mid) topic d)) :
    Fr F F.nPub g (g.handleClientPublish dup q r tit tid mid d) := by
  unfold Gw.handleClientPublish
  split
  · exact (Fr.fail g _).zero
  · exact (Fr.fail g _).zero
  · rename_i topic _
    refine Fr.ite (fun _ => (Fr.fail g _).zero) fun hc => ?_
    simp only [Bool.or_eq_true, not_or, Bool.not_eq_true] at hc
    exact (Fr.storeClientPub1 S g q tid mid).before
      (Fr.mqttSend _ _ (hpub topic (fun e => by simp [e] at hc) hc.2))

theorem Fr.forwardSubscribe (S : F.Sites) (g : Gw) (dup : Bool) (q : UInt8) (mid : UInt16) (topic : Bytes)
    (tid : UInt16) (hq : q ≤ 2) : Fr F F.nSub g (g.forwardSubscribe dup q mid topic tid) := by
  unfold Gw.forwardSubscribe
  exact Fr.ite (fun _ => (Fr.fail g _).zero) fun hne =>
    ((Fr.newTx g _ _ _ (S.kSubscribe tid)).trans (Fr.storeById _ _ _)).before
      (Fr.mqttSend _ _ (S.mqSubscribe _ _ _ _ (mt List.isEmpty_iff.mpr hne) hq))

theorem Fr.handleSubscribe (S : F.Sites) (g : Gw) (dup : Bool) (q tit : UInt8) (mid tid : UInt16) (name : Bytes) :
    Fr F F.nSub g (g.handleSubscribe dup q tit mid tid name) := by
  unfold Gw.handleSubscribe
  refine Fr.ite (fun _ => (Fr.snSend g _ none (S.suback _ _ _ _ (by decide))).zero) fun hq => ?_
  have fwd := fun (x : Gw) topic id => Fr.forwardSubscribe S x dup q mid topic id (UInt8.not_lt.mp hq)
  refine Fr.ite (fun _ => Fr.ite (fun _ => ?_) fun _ => fwd _ _ _) fun _ =>
    Fr.ite (fun _ => ?_) fun _ => Fr.ite (fun _ => fwd _ _ _) fun _ => fwd _ _ _
  · split
    · exact fwd _ _ _
    · split
      · rename_i h
        exact (Fr.alloc S h _).before (fwd _ _ _)
      · rename_i h
        exact ((Fr.allocFail S h).trans (Fr.snSend _ _ none (S.suback _ _ _ _ (by decide)))).zero
  · split
    · exact fwd _ _ _
    · exact (Fr.fail g _).zero

theorem Fr.forwardUnsubscribe (S : F.Sites) (g : Gw) (mid : UInt16) (topic : Bytes) :
    Fr F F.nUnsub g (g.forwardUnsubscribe mid topic) := by
  unfold Gw.forwardUnsubscribe
  exact Fr.ite (fun _ => (Fr.fail g _).zero) fun hne => Fr.mqttSend g _ (S.mqUnsubscribe _ _ (mt List.isEmpty_iff.mpr hne))

theorem Fr.handleUnsubscribe (S : F.Sites) (g : Gw) (tit : UInt8) (mid tid : UInt16) (name : Bytes) :
    Fr F F.nUnsub g (g.handleUnsubscribe tit mid tid name) := by
  unfold Gw.handleUnsubscribe
  refine Fr.ite (fun _ => Fr.forwardUnsubscribe S _ _ _) fun _ => Fr.ite (fun _ => ?_) fun _ =>
    Fr.ite (fun _ => Fr.forwardUnsubscribe S _ _ _) fun _ => Fr.forwardUnsubscribe S _ _ _
  split
  · exact Fr.forwardUnsubscribe S _ _ _
  · exact (Fr.fail g _).zero

theorem Fr.handleRegister (S : F.Sites) (g : Gw) (mid : UInt16) (name : Bytes) : Fr F 0 g (g.handleRegister mid name) := by
  unfold Gw.handleRegister
  refine Fr.ite (fun _ => Fr.snSend g _ none (S.regack _ _ _)) fun _ => ?_
  · split
    · exact Fr.snSend g _ none (S.regack _ _ _)
    · split
      · rename_i h
        exact (Fr.alloc S h _).trans (Fr.snSend _ _ none (S.regack _ _ _))
      · rename_i h
        exact (Fr.allocFail S h).trans (Fr.snSend _ _ none (S.regack _ _ _))

/-- a sleeping client that pings is awake while it gets what was queued, and asleep again -/
theorem Fr.handlePingreq (S : F.Sites) (g : Gw) (hw : g.st = .asleep → F.St .asleep → F.St .awake) :
    Fr F 0 g g.handlePingreq := by
  unfold Gw.handlePingreq
  refine Fr.ite (fun ha hI => ?_) fun _ => Fr.mqttSend g _ S.mqPingreq
  have hs : F.St .asleep := ha ▸ hI.st
  exact (((((Fr.setSt g _ (hw ha hs)).trans (Fr.flushBuffer _)).trans (Fr.snSend _ _ none S.pingresp)).trans
    (Fr.setSt _ _ hs)).trans (Fr.armSleepPinger _ _)) hI

theorem Fr.handleSleep (S : F.Sites) (g : Gw) (d : UInt16) (hs : F.St .asleep) (hw : F.Wire (.disconnect 0)) :
    Fr F 0 g (g.handleSleep d) := by
  unfold Gw.handleSleep
  have h2 : ∀ x : Gw, Fr F 0 x x.clearBufferUnlessAsleep := fun x =>
    Fr.ite (fun _ => Fr.of_queue rfl rfl rfl rfl rfl fun _ h => absurd h List.not_mem_nil) fun _ => Fr.refl x
  exact ((((Fr.of_eq (g := g) (g' := { g with sleepDur := d }) rfl rfl rfl rfl rfl rfl).trans (Fr.armSleepPinger _ d)).trans
    (h2 _)).trans (Fr.snSendNow _ _ S.disconnect0 hw)).trans (Fr.setSt _ _ hs)

theorem Fr.handleDisconnect (S : F.Sites) (g : Gw) (d : UInt16)
    (hd : d = 0 → F.May 0 .disconnect ∧ F.St .disconnected) (hs : d ≠ 0 → F.St .asleep ∧ F.Wire (.disconnect 0)) :
    Fr F 0 g (g.handleDisconnect d) := by
  unfold Gw.handleDisconnect Gw.handlePlainDisconnect
  exact Fr.ite (fun h0 => (((Fr.mqttSend g _ (hd h0).1).trans (Fr.setSt _ _ (hd h0).2)).trans
    (Fr.snSend _ _ none S.disconnect0)).trans (Fr.fail _ _)) fun h0 => Fr.handleSleep S g d (hs h0).1 (hs h0).2

theorem Frame.Inv.connTx {g : Gw} (hI : F.Inv g) {t : Tx} {st : ConnSt} {f : ConnFields}
    (h : g.connTx = some (t, st, f)) : F.K g.regIds (.connect st f) :=
  (connTx_spec h).2 ▸ hI.txs t (connTx_spec h).1

theorem Fr.connAuthenticated (g : Gw) (t : Tx) (f : ConnFields) (S : SnSites F.Sn) (hA : F.Authd g.regIds f) :
    Fr F 0 g (g.connAuthenticated t f) := by
  unfold Gw.connAuthenticated
  exact Fr.ite (fun hw => (Fr.setTx g _ (hA.1 hw)).trans (Fr.snSend _ _ none S.willtopicreq)) fun hw =>
    (Fr.setTx g _ (hA.2 (eq_false_of_ne_true hw)).1).trans (Fr.mqttSend _ _ (hA.2 (eq_false_of_ne_true hw)).2)

theorem Fr.sendConnack (S : SnSites F.Sn) (g : Gw) (rc : UInt8) : Fr F 0 g (g.sendConnack rc) :=
  Fr.snSend g _ none (S.connack rc)

theorem Fr.connAuth (S : SnSites F.Sn) (g : Gw) (t : Tx) (st : ConnSt) (f : ConnFields) (m d : Bytes)
    (hA : st = .awaitingAuth → ∀ u pw, F.Authd g.regIds { f with uflag := true, user := u, pflag := true, pass := pw }) :
    Fr F 0 g (g.connAuth t st f m d) := by
  unfold Gw.connAuth
  refine Fr.ite (fun _ => Fr.refl g) fun hst => Fr.ite (fun _ => ?_) fun _ =>
    ((Fr.sendConnack S g _).trans (Fr.finishTx _ _)).trans (Fr.fail _ _)
  split
  · exact (Fr.finishTx g _).trans (Fr.fail _ _)
  · exact Fr.connAuthenticated g t _ S (hA (Decidable.not_not.mp hst) _ _)

theorem Fr.connWillTopic (S : F.Sites) (g : Gw) (t : Tx) (st : ConnSt) (f : ConnFields)
    (q : UInt8) (r : Bool) (topic : Bytes) (hK : st = .awaitingWillTopic → F.K g.regIds (.connect .awaitingWillTopic f)) :
    Fr F 0 g (g.connWillTopic t st f q r topic) := by
  unfold Gw.connWillTopic
  exact Fr.ite (fun _ => Fr.refl g) fun hst => Fr.ite (fun _ => (Fr.finishTx g _).trans (Fr.fail _ _)) fun hq =>
    (Fr.setTx g _ (S.willTopic f q r topic (hK (Decidable.not_not.mp hst)) (UInt8.not_lt.mp hq))).trans
      (Fr.snSend _ _ none S.willmsgreq)

theorem Fr.connWillMsg (S : F.Sites) (g : Gw) (t : Tx) (st : ConnSt) (f : ConnFields) (msg : Bytes)
    (hK : st = .awaitingWillMsg → F.K g.regIds (.connect .awaitingWillMsg f)) : Fr F 0 g (g.connWillMsg t st f msg) := by
  unfold Gw.connWillMsg
  refine Fr.ite (fun _ => Fr.refl g) fun hst => ?_
  obtain ⟨hK', hM⟩ := S.willMsg f msg (hK (Decidable.not_not.mp hst))
  exact (Fr.setTx g _ hK').trans (Fr.mqttSend _ _ hM)

/-- the broker's CONNACK 0 for an exchange that waits for it activates the session -/
theorem Fr.connConnack (S : SnSites F.Sn) (g : Gw) (t : Tx) (st : ConnSt) (rc : UInt8)
    (ha : st = .awaitingConnack → rc = 0 → F.St .active) :
    Fr F 0 g (g.connConnack t st rc) := by
  unfold Gw.connConnack
  exact Fr.ite (fun _ => Fr.refl g) fun hst =>
    Fr.ite (fun _ => ((Fr.sendConnack S g _).trans (Fr.finishTx _ _)).trans (Fr.fail _ _)) fun h0 =>
      ((Fr.setSt g .active (ha (Decidable.not_not.mp hst) (Decidable.not_not.mp h0))).trans (Fr.sendConnack S _ _)).trans
        (Fr.finishTx _ _)

theorem Fr.cancelOldConnect (g : Gw) : Fr F 0 g g.cancelOldConnect := by
  unfold Gw.cancelOldConnect
  split
  · exact Fr.finishTx g _
  · exact Fr.refl g

theorem Fr.newTx_setTx (g : Gw) (k : TxKind) (key : TxKey) (tm : Option Nat) (t' : Tx) (hid : t'.id = g.nextTx)
    (h : F.K g.regIds t'.kind) : Fr F 0 g ((g.newTx k key tm).2.setTx t') := by
  rw [newTx_setTx_kind g k t'.kind key tm t' hid]
  exact (Fr.newTx g _ key tm h).trans (Fr.setTx _ t' h)

/-- the new exchange waits for AUTH where authentication is enabled and starts authenticated where it is not -/
theorem Fr.startConnect (S : SnSites F.Sn) (g : Gw) (f : ConnFields)
    (hnew : F.cfg.auth = true → F.K g.regIds (.connect .awaitingAuth f)) (hno : F.cfg.auth = false → F.Authd g.regIds f) :
    Fr F 0 g (g.startConnect f) := by
  unfold Gw.startConnect Gw.startConnectTx
  refine Fr.ite (fun ha hI => ((Fr.newTx g _ _ _ (hnew (by rw [← hI.cfg]; exact ha))).trans (Fr.setConnectTx _ _)) hI)
    fun ha hI => ?_
  obtain ⟨hw, hnw⟩ := hno (by rw [← hI.cfg]; exact eq_false_of_ne_true ha)
  split
  · rename_i t ht
    have hid : t.id = g.nextTx := by simpa using List.find?_some ht
    revert hI
    unfold Gw.connAuthenticated
    refine Fr.ite (fun hwill => Fr.trans ?_ (Fr.snSend _ _ none S.willtopicreq)) fun hwill =>
      Fr.trans ?_ (Fr.mqttSend _ _ (hnw (eq_false_of_ne_true hwill)).2)
    -- the model sets `connectTx` between `newTx` and `setTx`: the trailing `of_eq` steps over that
    · exact (Fr.newTx_setTx g (.connect .awaitingAuth f) .connectType (some (g.now + Gen.connectTransactionTimeout))
        { t with kind := .connect .awaitingWillTopic f } hid (hw hwill)).trans (Fr.of_eq rfl rfl rfl rfl rfl rfl)
    · exact (Fr.newTx_setTx g (.connect .awaitingAuth f) .connectType (some (g.now + Gen.connectTransactionTimeout))
        { t with kind := .connect .awaitingConnack f } hid (hnw (eq_false_of_ne_true hwill)).1).trans
        (Fr.of_eq rfl rfl rfl rfl rfl rfl)
  · rename_i hnone
    -- the exchange just created is in the store
    exact absurd (beq_self_eq_true g.nextTx) (List.find?_eq_none.mp hnone _ (List.mem_append_right _ (List.mem_singleton_self _)))

/-- a CONNECT from a sleeping (or awake) client brings it back; from any other state it opens a connect exchange -/
theorem Fr.handleConnect (S : SnSites F.Sn) (C : F.ConnSites) (g : Gw) (w cl : Bool) (d : UInt16) (cid : Bytes)
    (hre : g.st = .awake ∨ g.st = .asleep → F.St .active) : Fr F 0 g (g.handleConnect w cl d cid) := by
  unfold Gw.handleConnect
  refine Fr.ite (fun hs => ?_) fun _ => Fr.ite (fun _ => Fr.snSend g _ none (S.connack _)) fun _ hI => ?_
  · exact (((Fr.of_eq (g := g) (g' := g.cancelSleepPinger) rfl rfl rfl rfl rfl rfl).trans (Fr.setSt _ .active (hre hs))).trans
      (Fr.snSend _ _ none (S.connack _))).trans (Fr.flushBuffer _)
  · have e : mkConnFields g.cfg w cl d cid = mkConnFields F.cfg w cl d cid := by rw [hI.cfg]
    exact (((Fr.of_eq (g := g) (g' := { g with keepAlive := d, clientId := cid }) rfl rfl rfl rfl rfl rfl).trans
      (Fr.cancelOldConnect _)).trans
      (Fr.startConnect S _ _ (fun ha => e ▸ C.new ha w cl d cid) (fun ha => e ▸ C.noAuth ha w cl d cid))) hI

theorem Fr.handleSn (S : F.Sites) (C : F.ConnSites) (g : Gw) (p : Pkt) (hA : F.Admits p) :
    Fr F (F.budget p) g (g.handleSn p) := by
  unfold Gw.handleSn
  refine Fr.ite (fun _ => (Fr.fail g _).zero) fun hl => ?_
  split
  · exact fun hI => Fr.handleConnect S.toSnSites C g _ _ _ _ (hA.connect _ _ _ _ _ rfl _ hI.st) hI
  · split
    · rename_i t st f h
      exact fun hI => Fr.connAuth S.toSnSites g t st f _ _
        (fun hs u pw => hA.auth _ _ _ rfl f u pw (hs ▸ hI.connTx h)) hI
    · exact Fr.refl g
  · split
    · rename_i t st f h
      exact fun hI => Fr.connWillTopic S g t st f _ _ _ (fun hs => hs ▸ hI.connTx h) hI
    · exact Fr.refl g
  · split
    · rename_i t st f h
      exact fun hI => Fr.connWillMsg S g t st f _ (fun hs => hs ▸ hI.connTx h) hI
    · exact Fr.refl g
  · exact Fr.handleRegister S g _ _
  · exact Fr.handleClientPublish S g _ _ _ _ _ _ _ (hA.publish _ _ _ _ _ _ _ rfl)
  · exact Fr.mqttSend g _ (S.mqPubrel _)
  · exact Fr.handleSubscribe S g _ _ _ _ _ _
  · exact Fr.handleUnsubscribe S g _ _ _ _
  · exact Fr.handlePingreq S g fun _ => hA.pingreq _ rfl
  · rename_i d
    refine fun hI => Fr.handleDisconnect S g d (fun e => ⟨hA.mqDisconnect (by rw [e]), hA.leave (by rw [e])⟩)
      (fun hd => hA.sleep d rfl hd _ hI.st fun hs => ?_) hI
    -- from a client that is not connected only a plain DISCONNECT is legal
    simp [Gw.packetLegal, hs, hd] at hl
  · split
    · rename_i t h
      split
      · rename_i n hk
        exact fun hI => Fr.bpRegack S g t _ _ _ _ _ (fun _ _ _ hs hd =>
          ⟨n, hd ▸ hs ▸ hk ▸ hI.txs t (lookupByIdB_mem h)⟩) hI
      · exact Fr.refl g
    · exact Fr.refl g
  · split
    · split
      · exact Fr.ite (fun _ => Fr.refl g) fun _ => Fr.ite (fun _ => Fr.finishTx g _) fun _ =>
          Fr.proceedAck S g _ _ (.puback _)
      · exact Fr.refl g
    · exact Fr.refl g
  · split
    · split
      · exact Fr.ite (fun _ => Fr.refl g) fun _ => Fr.proceedAck S g _ _ (.pubrec _)
      · exact Fr.refl g
    · exact Fr.refl g
  · split
    · split
      · exact Fr.ite (fun _ => Fr.refl g) fun _ => Fr.proceedAck S g _ _ (.pubcomp _)
      · exact Fr.refl g
    · exact Fr.refl g
  · exact (Fr.fail g _).zero

/-- `hc` says more than `Frame.AdmitsEv` asks (an exchange is waiting for the CONNACK): `c07_activation` reads it -/
theorem Fr.handleMq (S : F.Sites) (g : Gw) (p : MqPkt)
    (hc : p = .connack 0 → (∃ t f, g.connTx = some (t, .awaitingConnack, f)) → F.St .active) :
    Fr F 0 g (g.handleMq p) := by
  unfold Gw.handleMq
  split
  · split
    · rename_i t st f h
      exact Fr.connConnack S.toSnSites g _ _ _ fun es e => hc (by rw [e]) ⟨t, f, es ▸ h⟩
    · exact Fr.refl g
  · split
    · split
      · exact (Fr.finishTx g _).trans (Fr.snSend _ _ none (S.puback _ _ _))
      · exact Fr.refl g
    · exact Fr.refl g
  · exact Fr.snSend g _ none (S.pubrec _)
  · exact Fr.snSend g _ none (S.pubcomp _)
  · split
    · split
      · split
        · exact Fr.ite (fun hc => (Fr.finishTx g _).trans (Fr.snSend _ _ none (S.suback _ _ _ _ hc))) fun _ =>
            (Fr.finishTx g _).trans (Fr.snSend _ _ none (S.suback _ _ _ _ (by decide)))
        · exact (Fr.finishTx g _).trans (Fr.fail _ _)
      · exact Fr.refl g
    · exact Fr.refl g
  · exact Fr.snSend g _ none (S.unsuback _)
  · exact Fr.ite (fun _ => Fr.of_eq rfl rfl rfl rfl rfl rfl) fun _ =>
      Fr.ite (fun _ => Fr.refl g) fun _ => Fr.snSend g _ none S.pingresp
  · exact Fr.handleBrokerPublish S g _ _ _ _ _ _
  · split
    · split
      · exact Fr.ite (fun _ => Fr.refl g) fun _ =>
          Fr.proceedSN g _ _ _ (S.pubrel _) fun hK => S.bpSn _ _ hK (S.pubrel _) nofun
      · exact Fr.refl g
    · exact Fr.refl g
  · exact Fr.fail g _

theorem Fr.fireDue (S : F.Sites) (g : Gw) (d : Due) : Fr F 0 g (g.fireDue d) := by
  unfold Gw.fireDue
  split
  · unfold Gw.fireTx
    split
    · rename_i t ht
      exact (Fr.setNow g _).trans (Fr.txExpire S _ t (getTx_mem ht))
    · exact Fr.setNow g _
  · unfold Gw.firePing
    refine Fr.trans ?_ (Fr.pingBroker S _)
    exact Fr.of_eq rfl rfl rfl rfl rfl rfl
  · exact Fr.of_eq rfl rfl rfl rfl rfl rfl

theorem Fr.shutdownDisconnect (S : SnSites F.Sn) (g : Gw) : Fr F 0 g g.shutdownDisconnect := by
  unfold Gw.shutdownDisconnect
  refine Fr.ite (fun hs hI => Fr.emit _ _ ⟨_, S.disconnect0, F.notAsleep _ _ hI.st (fun e => ?_) S.disconnect0, rfl⟩ nofun hI)
    fun _ => Fr.refl _
  rw [e] at hs
  exact hs.elim nofun nofun

theorem Fr.emitEnd (g : Gw) : Fr F 0 g g.emitEnd :=
  (Fr.emit g (.ended _) trivial nofun).trans (Fr.emit _ .mqClose trivial nofun)

theorem Fr.stopTimers (g : Gw) : Fr F 0 g g.stopTimers := by
  refine fun hI => ⟨⟨hI.cfg, hI.st, hI.tb, hI.buf, fun x hx => ?_⟩, [], rfl, F.news_nil⟩
  obtain ⟨y, hy, rfl⟩ := List.mem_map.mp hx
  exact hI.txs y hy

theorem Fr.finishSession (S : SnSites F.Sn) (g : Gw) : Fr F 0 g g.finishSession := by
  unfold Gw.finishSession
  split
  · exact Fr.ite (fun _ => Fr.refl g) fun _ =>
      (((Fr.setNow g _).trans (Fr.shutdownDisconnect S _)).trans (Fr.emitEnd _)).trans (Fr.stopTimers _)
  · exact Fr.refl g

theorem Fr.advance (S : F.Sites) (t : Nat) : ∀ (fuel : Nat) (g : Gw), Fr F 0 g (advance fuel g t) := by
  intro fuel
  induction fuel with
  | zero => intro g; exact Fr.setNow g _
  | succ n ih =>
    intro g
    unfold Gw.advance
    refine Fr.ite (fun _ => (Fr.finishSession S.toSnSites g).trans (Fr.setNow _ _)) fun _ => ?_
    split
    · exact ((Fr.fireDue S g _).trans (Fr.finishSession S.toSnSites _)).trans (ih _)
    · exact Fr.setNow g _

theorem Fr.handleEvent (S : F.Sites) (C : F.ConnSites) (g : Gw) (ev : Event) (hev : F.AdmitsEv ev) :
    Fr F (F.evBudget ev) g (g.handleEvent ev) := by
  cases ev with
  | sn bytes =>
    simp only [Gw.handleEvent, Frame.evBudget]
    cases hdec : decode (bytes.take Gen.MaxPacketLen) with
    | ok hp =>
      obtain ⟨h, p⟩ := hp
      exact (Fr.handleSn S C g p (hev h p hdec)).after (Fr.keepBrokerAlive S _)
    | err => exact (Fr.fail g _).zero
    | panic => exact (Fr.fail g _).zero
  | mq p => exact Fr.handleMq S g p fun e _ => by subst e; exact hev
  | mqGarbage => exact Fr.fail g _
  | mqEof => exact Fr.ite (fun _ => Fr.fail g _) fun _ => Fr.fail g _
  | shutdown => exact Fr.fail g _
  | tick => exact Fr.refl g

theorem Frame.report_ok (F : Frame) {o : Nat × Out} (h : isReport o.2 = true) : F.OutOk o.2 ∧ F.counted o = false :=
  isReport_elim (P := fun x => F.OutOk x ∧ F.counted (o.1, x) = false) (fun _ => ⟨trivial, rfl⟩) (fun _ => ⟨trivial, rfl⟩)
    (fun _ => ⟨trivial, rfl⟩) h

theorem Fr.sample (g : Gw) : Fr F 0 g g.sample := by
  obtain ⟨new, hn, e⟩ := sample_eq g
  rw [e]
  refine fun hI => ⟨⟨hI.cfg, hI.st, hI.tb, hI.buf, hI.txs⟩, new, rfl, fun o ho => (F.report_ok (hn o ho)).1, Nat.le_of_eq ?_⟩
  rw [List.filter_eq_nil_iff.mpr fun o ho => by rw [(F.report_ok (hn o ho)).2]; nofun]
  rfl

theorem Fr.step (S : F.Sites) (C : F.ConnSites) (g : Gw) (t : Nat) (ev : Event) (hev : F.AdmitsEv ev) :
    Fr F (F.evBudget ev) g (g.step t ev) := by
  unfold Gw.step Gw.stepCore Gw.deliver
  have q1 := Fr.advance S t 100000 g
  exact (Fr.ite (fun _ => (q1.trans (Fr.finishSession S.toSnSites _)).zero) fun _ =>
    (q1.before (Fr.handleEvent S C _ ev hev)).after ((Fr.advance S t 100000 _).trans (Fr.finishSession S.toSnSites _))).after
    (Fr.sample _)

theorem Fr.run (S : F.Sites) (C : F.ConnSites) (evs : List (Nat × Event)) (hev : ∀ e ∈ evs, F.AdmitsEv e.2) :
    ∀ g : Gw, Fr F (evs.map fun e => F.evBudget e.2).sum g (g.run evs) := by
  -- `Gw.run` unfolded first: comparing `g.run (e :: rest)` with `(g.step ..).run rest` as they stand makes the
  -- unifier evaluate the step
  unfold Gw.run
  induction evs with
  | nil => exact Fr.refl
  | cons e rest ih =>
    intro g
    obtain ⟨t, ev⟩ := e
    rw [List.foldl_cons, List.map_cons, List.sum_cons]
    exact Fr.comp (b := g.step t ev) (Fr.step S C g t ev (hev _ (List.mem_cons_self ..)))
      (ih (fun x hx => hev x (List.mem_cons_of_mem _ hx)) _)

theorem Frame.inv_init (F : Frame) (a b : UInt16) (h : F.St .disconnected) (ht : F.Tb (Gw.init F.cfg a b).topicTables) :
    F.Inv (Gw.init F.cfg a b) :=
  ⟨rfl, h, ht, fun _ h => absurd h List.not_mem_nil, fun _ h => absurd h List.not_mem_nil⟩

theorem Fr.run_init (S : F.Sites) (C : F.ConnSites) (evs : List (Nat × Event)) (hev : ∀ e ∈ evs, F.AdmitsEv e.2)
    (a b : UInt16) (h0 : F.St .disconnected) (ht : F.Tb (Gw.init F.cfg a b).topicTables) :
    F.Inv ((Gw.init F.cfg a b).run evs) ∧ F.News (evs.map fun e => F.evBudget e.2).sum ((Gw.init F.cfg a b).run evs).outs := by
  obtain ⟨hI, new, e, hn⟩ := Fr.run S C evs hev _ (F.inv_init a b h0 ht)
  rw [e, show (Gw.init F.cfg a b).outs = [] from rfl, List.append_nil]
  exact ⟨hI, hn⟩

/-- the frame that asks nothing; what the walk shows for it is that no model function changes the configuration -/
def Frame.top (c : Cfg) : Frame := { cfg := c }

theorem Frame.sites_of (hK : ∀ R k, F.K R k) (hT : ∀ v, F.Tb v) (hS : ∀ p, F.Sn p) (hM : ∀ n p, F.May n p) : F.Sites :=
  { alloc := fun _ _ _ _ _ _ => hT _, allocFail := fun _ _ _ _ => hT _, regAck := fun _ _ _ _ _ _ _ _ _ => hT _,
    reserve := fun _ _ _ _ _ _ => ⟨hT _, fun _ _ => hK _ _⟩,
    connack := fun _ => hS _, willtopicreq := hS _, willmsgreq := hS _, regack := fun _ _ _ => hS _,
    suback := fun _ _ _ _ _ => hS _, puback := fun _ _ _ => hS _, pubrec := fun _ => hS _, pubcomp := fun _ => hS _,
    pubrel := fun _ => hS _, unsuback := fun _ => hS _, pingresp := hS _, disconnect0 := hS _,
    publish := fun _ _ _ _ _ _ _ _ _ _ => hS _, register := fun _ _ _ _ _ => hS _,
    kClientPub1 := fun _ => hK _ _, kSubscribe := fun _ => hK _ _, bpNew := fun _ _ _ _ => hK _ _,
    bpSn := fun _ _ _ _ _ => hK _ _, bpAck := fun _ _ _ _ => hK _ _, bpSnp := fun _ => hS _,
    retrySn := fun _ _ => ⟨hS _, hK _ _⟩, retryMq := fun _ _ => ⟨hM _ _, hK _ _⟩,
    mqAck := fun _ _ => hM _ _, mqPingreq := hM _ _,
    mqSubscribe := fun _ _ _ _ _ _ => hM _ _, mqUnsubscribe := fun _ _ _ => hM _ _, mqPubrel := fun _ => hM _ _,
    willTopic := fun _ _ _ _ _ _ => hK _ _, willMsg := fun _ _ _ => ⟨hK _ _, hM _ _⟩ }

/-- the connect sites and the packet sites of a frame whose `Authd` holds of every exchange -/
theorem Frame.ConnSites.of_authd (hK : ∀ R f, F.K R (.connect .awaitingAuth f)) (hA : ∀ R f, F.Authd R f) : F.ConnSites :=
  ⟨fun _ _ _ _ _ => hK _ _, fun _ _ _ _ _ => hA _ _⟩

theorem Frame.AdmitsPkt.of_authd {p : Pkt} (hA : ∀ R f, F.Authd R f)
    (hP : ∀ dup q r m t d, F.May F.nPub (.publish dup q r m t d)) (hD : F.May 0 .disconnect) : F.AdmitsPkt p :=
  ⟨fun _ _ _ _ _ _ _ _ => hA _ _, fun _ _ _ _ _ _ _ _ _ _ _ => hP _ _ _ _ _ _, fun _ => hD⟩

theorem Frame.authd_of (hK : ∀ R k, F.K R k) (hM : ∀ n p, F.May n p) (R : List (Bytes × UInt16)) (f : ConnFields) :
    F.Authd R f :=
  ⟨fun _ => hK _ _, fun _ => ⟨hK _ _, hM _ _⟩⟩

theorem Frame.conn_of (hK : ∀ R k, F.K R k) (hM : ∀ n p, F.May n p) : F.ConnSites :=
  .of_authd (fun _ _ => hK _ _) (authd_of hK hM)

theorem Frame.AdmitsPkt.of_true {p : Pkt} (hK : ∀ R k, F.K R k) (hM : ∀ n p, F.May n p) : F.AdmitsPkt p :=
  .of_authd (authd_of hK hM) (fun _ _ _ _ _ _ => hM _ _) (hM _ _)

theorem Frame.AdmitsSt.of_true {p : Pkt} (hS : ∀ s, F.St s) (hW : ∀ p, F.Wire p) : F.AdmitsSt p :=
  ⟨fun _ _ _ _ _ _ _ _ _ => hS _, fun _ _ _ => hS _, fun _ => hS _, fun _ _ _ _ _ _ => ⟨hS _, hW _⟩⟩

theorem Frame.admitsEv_all (hA : ∀ p, F.Admits p) (hS : F.St .active) (ev : Event) : F.AdmitsEv ev :=
  Frame.AdmitsEv.intro ev (fun _ => hS) fun _ _ p _ _ => hA p

theorem Frame.top_sites (c : Cfg) : (Frame.top c).Sites :=
  Frame.sites_of (fun _ _ => trivial) (fun _ => trivial) (fun _ => trivial) fun _ _ => .free trivial

theorem Frame.top_authd (c : Cfg) : ∀ R f, (Frame.top c).Authd R f :=
  Frame.authd_of (fun _ _ => trivial) fun _ _ => .free trivial

theorem Frame.top_conn (c : Cfg) : (Frame.top c).ConnSites :=
  Frame.conn_of (fun _ _ => trivial) fun _ _ => .free trivial

theorem Fr.cfg_eq {n : Nat} {g g' : Gw} (h : Fr (.top g.cfg) n g g') : g'.cfg = g.cfg :=
  (h ⟨rfl, trivial, trivial, fun _ _ => trivial, fun _ _ => trivial⟩).1.cfg

/-- at the frame whose invariant is "the topic tables are these": a function the walk covers without the table sites
    leaves the tables alone -/
theorem tb_of_fr {n : Nat} {g g' : Gw} (h : Fr { cfg := g.cfg, Tb := (· = g.topicTables) } n g g') :
    g'.topicTables = g.topicTables :=
  (h ⟨rfl, trivial, rfl, fun _ _ => trivial, fun _ _ => trivial⟩).1.tb

theorem snSend_topicTables (g : Gw) (p : Pkt) (tx : Option Nat) : (g.snSend p tx).topicTables = g.topicTables :=
  tb_of_fr (Fr.snSend g p tx trivial)
theorem proceedSN_topicTables (g : Gw) (id : Nat) (st : BpSt) (p : Pkt) : (g.proceedSN id st p).topicTables = g.topicTables :=
  tb_of_fr (Fr.proceedSN g id st p trivial fun _ => trivial)

/-! ### the configuration

  `F8`, `FC`, `FB` say unconditionally that a function keeps the configuration.  For the handlers that take
  hypotheses of the frame at hand (so that `of_walk` of those files does not apply), that half is stated here, once. -/

theorem snSend_cfg (g : Gw) (p : Pkt) (tx : Option Nat) : (g.snSend p tx).cfg = g.cfg := (Fr.snSend g p tx trivial).cfg_eq
theorem proceedSN_cfg (g : Gw) (id : Nat) (s : BpSt) (p : Pkt) : (g.proceedSN id s p).cfg = g.cfg :=
  (Fr.proceedSN g id s p trivial fun _ => trivial).cfg_eq
theorem proceedMQ_cfg (g : Gw) (id : Nat) (s : BpSt) (p : MqPkt) : (g.proceedMQ id s p).cfg = g.cfg :=
  (Fr.proceedMQ (F := .top g.cfg) g id s p (.free trivial) fun _ => trivial).cfg_eq
theorem bpRegack_cfg (g : Gw) (t : Tx) (q : UInt8) (s : BpSt) (d : BpData) (snp : Option Pkt) (rc : UInt8) :
    (g.bpRegack t q s d snp rc).cfg = g.cfg :=
  (Fr.bpRegack (Frame.top_sites _) g t q s d snp rc fun _ _ _ _ _ => ⟨0, trivial⟩).cfg_eq
theorem handleClientPublish_cfg (g : Gw) (dup : Bool) (q : UInt8) (r : Bool) (tit : UInt8) (tid mid : UInt16) (d : Bytes) :
    (g.handleClientPublish dup q r tit tid mid d).cfg = g.cfg :=
  (Fr.handleClientPublish (Frame.top_sites _) g dup q r tit tid mid d fun _ _ _ => .free trivial).cfg_eq
theorem handleConnect_cfg (g : Gw) (will clean : Bool) (dur : UInt16) (cid : Bytes) :
    (g.handleConnect will clean dur cid).cfg = g.cfg :=
  (Fr.handleConnect SnSites.top (Frame.top_conn _) g will clean dur cid fun _ => trivial).cfg_eq
theorem handlePingreq_cfg (g : Gw) : g.handlePingreq.cfg = g.cfg :=
  (Fr.handlePingreq (Frame.top_sites _) g fun _ _ => trivial).cfg_eq
theorem handleDisconnect_cfg (g : Gw) (d : UInt16) : (g.handleDisconnect d).cfg = g.cfg :=
  (Fr.handleDisconnect (Frame.top_sites _) g d (fun _ => ⟨.free trivial, trivial⟩) fun _ => ⟨trivial, trivial⟩).cfg_eq
theorem connAuthenticated_cfg (g : Gw) (t : Tx) (f : ConnFields) : (g.connAuthenticated t f).cfg = g.cfg :=
  (Fr.connAuthenticated g t f SnSites.top (Frame.top_authd _ _ f)).cfg_eq
theorem connAuth_cfg (g : Gw) (t : Tx) (st : ConnSt) (f : ConnFields) (m d : Bytes) : (g.connAuth t st f m d).cfg = g.cfg :=
  (Fr.connAuth SnSites.top g t st f m d fun _ _ _ => Frame.top_authd _ _ _).cfg_eq
theorem connWillTopic_cfg (g : Gw) (t : Tx) (st : ConnSt) (f : ConnFields) (q : UInt8) (r : Bool) (tp : Bytes) :
    (g.connWillTopic t st f q r tp).cfg = g.cfg :=
  (Fr.connWillTopic (Frame.top_sites _) g t st f q r tp fun _ => trivial).cfg_eq
theorem connWillMsg_cfg (g : Gw) (t : Tx) (st : ConnSt) (f : ConnFields) (m : Bytes) : (g.connWillMsg t st f m).cfg = g.cfg :=
  (Fr.connWillMsg (Frame.top_sites _) g t st f m fun _ => trivial).cfg_eq
theorem connConnack_cfg (g : Gw) (t : Tx) (st : ConnSt) (rc : UInt8) : (g.connConnack t st rc).cfg = g.cfg :=
  (Fr.connConnack SnSites.top g t st rc fun _ _ => trivial).cfg_eq

end Bisquitt.Gw
