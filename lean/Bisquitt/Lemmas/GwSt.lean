/-
  Which model functions leave the client state (`st`) alone: all but the handlers of CONNECT, PINGREQ and
  DISCONNECT and of the broker's CONNACK.  For the composite functions this is the walk of `Lemmas/GwFrame.lean`
  at the frame whose invariant is "the state is `s`" (`stFrame`).  Listed are the senders and the handlers the
  dispatchers call; for any other function `f` the walk covers, `st_of_fr (Fr.f …)` is the same one line.
-/
import Bisquitt.Lemmas.GwFrame

namespace Bisquitt.Gw
open Bisquitt Gw

@[simp] theorem emit_st (g : Gw) (o : Out) : (g.emit o).st = g.st := rfl
@[simp] theorem setTx_st (g : Gw) (t : Tx) : (g.setTx t).st = g.st := rfl
@[simp] theorem mqttSend_st (g : Gw) (p : MqPkt) : (g.mqttSend p).st = g.st := rfl
@[simp] theorem newTx_st (g : Gw) (k : TxKind) (key : TxKey) (tm : Option Nat) : (g.newTx k key tm).2.st = g.st := rfl
@[simp] theorem storeByIdB_st (g : Gw) (m : UInt16) (id : Nat) : (g.storeByIdB m id).st = g.st := rfl
@[simp] theorem storeById_st (g : Gw) (m : UInt16) (id : Nat) : (g.storeById m id).st = g.st := rfl
@[simp] theorem storeRegistered_st (g : Gw) (id : UInt16) (n : Bytes) : (g.storeRegistered id n).st = g.st := rfl
@[simp] theorem setConnectTx_st (g : Gw) (id : Nat) : (g.setConnectTx id).st = g.st := rfl
@[simp] theorem setNow_st (g : Gw) (t : Nat) : (g.setNow t).st = g.st := rfl
@[simp] theorem setSt_st (g : Gw) (s : CState) : (g.setSt s).st = s := rfl
@[simp] theorem clearBuffer_st (g : Gw) : g.clearBuffer.st = g.st := rfl
@[simp] theorem snSendNow_st (g : Gw) (p : Pkt) : (g.snSendNow p).st = g.st := rfl
@[simp] theorem startSleepPinger_st (g : Gw) (d : UInt16) : (g.startSleepPinger d).st = g.st := rfl
@[simp] theorem pingBroker_st (g : Gw) : g.pingBroker.st = g.st := rfl
@[simp] theorem clearBufferUnlessAsleep_st (g : Gw) : g.clearBufferUnlessAsleep.st = g.st := by
  rw [clearBufferUnlessAsleep_eq]

def stFrame (c : Cfg) (s : CState) : Frame := { cfg := c, St := (· = s) }

theorem stSites (c : Cfg) (s : CState) : (stFrame c s).Sites :=
  Frame.sites_of (fun _ _ => trivial) (fun _ => trivial) (fun _ => trivial) fun _ _ => .free trivial

theorem st_of_fr {n : Nat} {g g' : Gw} (h : Fr (stFrame g.cfg g.st) n g g') : g'.st = g.st :=
  (h ⟨rfl, rfl, trivial, fun _ _ => trivial, fun _ _ => trivial⟩).1.st

@[simp] theorem finishTx_st (g : Gw) (id : Nat) : (g.finishTx id).st = g.st :=
  st_of_fr (Fr.finishTx g id)
@[simp] theorem fail_st (g : Gw) (c : EndCls) : (g.fail c).st = g.st :=
  st_of_fr (Fr.fail g c)
@[simp] theorem snSend_st (g : Gw) (p : Pkt) (tx : Option Nat) : (g.snSend p tx).st = g.st :=
  st_of_fr (Fr.snSend g p tx trivial)
@[simp] theorem armSleepPinger_st (g : Gw) (d : UInt16) : (g.armSleepPinger d).st = g.st :=
  st_of_fr (Fr.armSleepPinger g d)
@[simp] theorem keepBrokerAlive_st (g : Gw) : g.keepBrokerAlive.st = g.st :=
  st_of_fr (Fr.keepBrokerAlive (stSites _ _) g)
@[simp] theorem flushBuffer_st (g : Gw) : g.flushBuffer.st = g.st :=
  st_of_fr (Fr.flushBuffer g)
@[simp] theorem proceedSN_st (g : Gw) (id : Nat) (s : BpSt) (p : Pkt) : (g.proceedSN id s p).st = g.st :=
  st_of_fr (Fr.proceedSN g id s p trivial fun _ => trivial)
@[simp] theorem proceedMQ_st (g : Gw) (id : Nat) (s : BpSt) (p : MqPkt) : (g.proceedMQ id s p).st = g.st :=
  st_of_fr (Fr.proceedMQ g id s p (.free trivial) fun _ => trivial)
@[simp] theorem bpRegack_st (g : Gw) (t : Tx) (q : UInt8) (s : BpSt) (d : BpData) (snp : Option Pkt) (rc : UInt8) :
    (g.bpRegack t q s d snp rc).st = g.st :=
  st_of_fr (Fr.bpRegack (stSites _ _) g t q s d snp rc fun _ _ _ _ _ => ⟨0, trivial⟩)
@[simp] theorem connAuth_st (g : Gw) (t : Tx) (s : ConnSt) (f : ConnFields) (m d : Bytes) :
    (g.connAuth t s f m d).st = g.st :=
  st_of_fr (Fr.connAuth SnSites.top g t s f m d fun _ _ _ => ⟨fun _ => trivial, fun _ => ⟨trivial, .free trivial⟩⟩)
@[simp] theorem connWillTopic_st (g : Gw) (t : Tx) (s : ConnSt) (f : ConnFields) (q : UInt8) (r : Bool) (tp : Bytes) :
    (g.connWillTopic t s f q r tp).st = g.st :=
  st_of_fr (Fr.connWillTopic (stSites _ _) g t s f q r tp fun _ => trivial)
@[simp] theorem connWillMsg_st (g : Gw) (t : Tx) (s : ConnSt) (f : ConnFields) (m : Bytes) :
    (g.connWillMsg t s f m).st = g.st :=
  st_of_fr (Fr.connWillMsg (stSites _ _) g t s f m fun _ => trivial)
@[simp] theorem handleClientPublish_st (g : Gw) (dup : Bool) (q : UInt8) (r : Bool) (tit : UInt8) (tid mid : UInt16)
    (d : Bytes) : (g.handleClientPublish dup q r tit tid mid d).st = g.st :=
  st_of_fr (Fr.handleClientPublish (stSites _ _) g dup q r tit tid mid d fun _ _ _ => .free trivial)
@[simp] theorem handleSubscribe_st (g : Gw) (dup : Bool) (q tit : UInt8) (mid tid : UInt16) (n : Bytes) :
    (g.handleSubscribe dup q tit mid tid n).st = g.st :=
  st_of_fr (Fr.handleSubscribe (stSites _ _) g dup q tit mid tid n)
@[simp] theorem handleUnsubscribe_st (g : Gw) (tit : UInt8) (mid tid : UInt16) (n : Bytes) :
    (g.handleUnsubscribe tit mid tid n).st = g.st :=
  st_of_fr (Fr.handleUnsubscribe (stSites _ _) g tit mid tid n)
@[simp] theorem handleRegister_st (g : Gw) (mid : UInt16) (n : Bytes) : (g.handleRegister mid n).st = g.st :=
  st_of_fr (Fr.handleRegister (stSites _ _) g mid n)
@[simp] theorem handleBrokerPublish_st (g : Gw) (dup : Bool) (q : UInt8) (r : Bool) (mid : UInt16) (tp pl : Bytes) :
    (g.handleBrokerPublish dup q r mid tp pl).st = g.st :=
  st_of_fr (Fr.handleBrokerPublish (stSites _ _) g dup q r mid tp pl)

end Bisquitt.Gw
