/-
  Whole runs of the gateway model for `Step` (C14, C23, C24): the decoder hands the handler `PktIn` packets only,
  so `WF` is an invariant of every reachable state and every output ever produced is permitted by the emission
  sites.
-/
import Bisquitt.Lemmas.DecodeIn
import Bisquitt.Lemmas.GwEmits

namespace Bisquitt.Gw
open Bisquitt Gw

variable {Sn : Pkt → Prop} {Mq : MqPkt → Prop} {E : MqPkt → Prop}

theorem wf_init (cfg : Cfg) (a b : UInt16) : WF Sn Mq (Gw.init cfg a b) :=
  ⟨fun _ h => absurd h List.not_mem_nil, fun _ h => absurd h List.not_mem_nil⟩

/-- the hypothesis under which an event may make the gateway send an MQTT DISCONNECT -/
def AllowsDisconnect (E : MqPkt → Prop) : Event → Prop
  | .sn bytes => (∃ h, decode (bytes.take Gen.MaxPacketLen) = .ok (h, .disconnect 0)) → E .disconnect
  | _ => True

theorem AllowsDisconnect.of (h : E .disconnect) (ev : Event) : AllowsDisconnect E ev := by
  cases ev with
  | sn _ => exact fun _ => h
  | _ => trivial

theorem Sites.admitsEv (S : Sites Sn Mq) (c : Cfg) (ev : Event) (hd : AllowsDisconnect E ev) :
    (stepFrame Sn Mq E c).AdmitsEv ev :=
  Frame.AdmitsEv.intro ev (fun _ => trivial) fun _ h _ e hdec => S.admits _ _ (decode_in hdec) fun ep => by
    subst e ep; exact hd ⟨h, hdec⟩

theorem step_spec (S : Sites Sn Mq) (g : Gw) (t : Nat) (ev : Event) (hd : AllowsDisconnect E ev) :
    Step Sn Mq E g (g.step t ev) :=
  .of_fr (Fr.step (S.frame _) (S.conn _) g t ev (S.admitsEv _ ev hd))

theorem Step.run (S : Sites Sn Mq) (hE : ∀ ev, AllowsDisconnect E ev) (evs : List (Nat × Event)) (g : Gw) :
    Step Sn Mq E g (g.run evs) :=
  .of_fr (Fr.run (S.frame _) (S.conn _) evs (fun e _ => S.admitsEv _ e.2 (hE e.2)) g)

theorem run_wf (S : Sites Sn Mq) (cfg : Cfg) (a b : UInt16) (evs : List (Nat × Event)) :
    WF Sn Mq ((Gw.init cfg a b).run evs) :=
  (Step.run (E := fun _ => True) S (.of trivial) evs _
    (wf_init cfg a b)).2

/-- every output of every run is permitted (an MQTT DISCONNECT being the only extra) -/
theorem run_outs (S : Sites Sn Mq) (cfg : Cfg) (a b : UInt16) (evs : List (Nat × Event)) :
    ∀ x ∈ ((Gw.init cfg a b).run evs).outs, OutOk Sn Mq (fun p => p = .disconnect) x.2 := by
  obtain ⟨new, hnew, hall⟩ := (Step.run (E := fun p => p = .disconnect) S (.of rfl) evs _
    (wf_init (Sn := Sn) (Mq := Mq) cfg a b)).1
  intro x hx
  rw [hnew] at hx
  exact hall x ((List.mem_append.mp hx).resolve_right fun h => nomatch h)

end Bisquitt.Gw
