/-
  `Res.Yields`: "does not panic, and a value it returns satisfies `P`" (a rejection, `.err`, is fine).  C20 (no Go
  bounds-check failure), C22 (agreement with the positional reader) and `Gw.PktIn` (`Lemmas/DecodeIn.lean`) are all
  read off one `Yields` statement per `Unpack`, proved in `Lemmas/WireReads.lean`.
-/
import Bisquitt.Spec.Codec

namespace Bisquitt
open Spec

namespace Res
variable {α β : Type} {P : α → Prop} {Q : β → Prop} {r : Res α}

def Yields (r : Res α) (P : α → Prop) : Prop :=
  match r with
  | .ok a => P a
  | .err => True
  | .panic => False

theorem Yields.ok {a : α} (h : P a) : (Res.ok a).Yields P := h
theorem Yields.err : (Res.err : Res α).Yields P := trivial
theorem Yields.ne_panic (h : r.Yields P) : r ≠ .panic := by rintro rfl; exact h
theorem Yields.of_ok {a : α} (h : r.Yields P) (e : r = .ok a) : P a := by subst e; exact h

theorem Yields.guard {c : Prop} [Decidable c] (h : ¬c → r.Yields P) :
    (if c then .err else r).Yields P := by
  by_cases hc : c
  · rw [if_pos hc]; exact .err
  · rw [if_neg hc]; exact h hc

theorem Yields.bind {f : α → Res β} (h : r.Yields P) (hf : ∀ a, P a → (f a).Yields Q) :
    (r >>= f).Yields Q := by
  cases r with
  | ok a => exact hf a h
  | err => exact h
  | panic => exact h
end Res

/-! An index or slice expression that is in range yields what the positional reader sees there. -/

theorem getB_b8 {bs : Bytes} {i : Nat} (h : i < bs.length) : getB bs i = .ok (b8 bs i) := by
  simp [getB, b8, h]

theorem get16_b16 {bs : Bytes} {i : Nat} (h : i + 1 < bs.length) : get16 bs i = .ok (b16 bs i) := by
  rw [get16, getB_b8 h, getB_b8 (Nat.lt_of_succ_lt h)]; rfl

theorem slice_ok {bs : Bytes} {i j : Nat} (h : i ≤ j ∧ j ≤ bs.length) :
    slice bs i j = .ok ((bs.drop i).take (j - i)) := by simp [slice, h]

end Bisquitt
