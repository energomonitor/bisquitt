/-
  Output-shape theorems about the gateway model (C14, C23, C24): every function of `Model/Gateway.lean`
  only ever EXTENDS the output log, and what it adds is constrained by a family of per-site permissions
  (`Sites`); the packets parked in the sleep buffer and in transactions satisfy the same permissions
  (`WF`), so that flushing / resending them later is covered too.  The frame (`Lemmas/GwFrame.lean`) is `stepFrame`:
  invariant `WF`, permitted outputs `OutOk`; `Step` is the relation of one call in these words (`Step.of_fr`), and
  `Lemmas/GwRun.lean` has the runs.  `E` names MQTT packets permitted beside those of the sites: the DISCONNECT the
  gateway forwards for the client (`Sites.admits`; `AllowsDisconnect` of `Lemmas/GwRun.lean`), which C14 is about.
-/
import Bisquitt.Lemmas.GwFrame

namespace Bisquitt.Gw
open Bisquitt Gw

variable (Sn : Pkt → Prop) (Mq : MqPkt → Prop) (E : MqPkt → Prop)

/-- what an output may be: a datagram that is the encoding of a permitted packet, a permitted
    MQTT packet, or anything else (end / close / instrumentation) -/
def OutOk : Out → Prop
  | .sn b => ∃ p, Sn p ∧ b = encode p
  | .mq p => Mq p ∨ E p
  | _ => True

/-- `g'` extends the output log of `g` by permitted outputs only -/
def Emits (g g' : Gw) : Prop :=
  ∃ new : List (Nat × Out), g'.outs = new ++ g.outs ∧ ∀ x ∈ new, OutOk Sn Mq E x.2

/-- a CONNECT under construction is a valid MQTT CONNECT as far as the will is concerned -/
def ConnOk (f : ConnFields) : Prop := f.will = !f.wt.isEmpty ∧ f.wq ≤ 2

def ConnInv : ConnSt → ConnFields → Prop
  | .awaitingAuth, f => f.wt = [] ∧ f.wq = 0
  | .awaitingWillTopic, f => f.wt = [] ∧ f.wq = 0 ∧ f.will = true
  | .awaitingWillMsg, f | .awaitingConnack, f => ConnOk f

/-- packets parked in a transaction may be (re)sent later: they carry the same permissions -/
def KindOk : TxKind → Prop
  | .brokerPub _ _ data snp _ =>
    (∀ p, data = .sn p → Sn p) ∧ (∀ p, data = .mq p → Mq p) ∧ (∀ p, snp = some p → Sn p)
  | .connect st f => ConnInv st f
  | _ => True

def WF (g : Gw) : Prop := (∀ it ∈ g.buffer, Sn it.pkt) ∧ (∀ t ∈ g.txs, KindOk Sn Mq t.kind)

/-- one model function call: from a well-formed state it extends the log by permitted outputs
    only and ends in a well-formed state -/
def Step (g g' : Gw) : Prop := WF Sn Mq g → Emits Sn Mq E g g' ∧ WF Sn Mq g'

/-- the emission sites of the model and what each may send -/
structure Sites : Prop where
  connack : ∀ rc, Sn (.connack rc)
  willtopicreq : Sn .willtopicreq
  willmsgreq : Sn .willmsgreq
  regack : ∀ id mid rc, Sn (.regack id mid rc)
  suback : ∀ q id mid rc, q ≤ 2 → Sn (.suback q id mid rc)
  puback : ∀ id mid rc, Sn (.puback id mid rc)
  pubrec : ∀ mid, Sn (.pubrec mid)
  pubcomp : ∀ mid, Sn (.pubcomp mid)
  pubrel : ∀ mid, Sn (.pubrel mid)
  unsuback : ∀ mid, Sn (.unsuback mid)
  pingresp : Sn .pingresp
  disconnect0 : Sn (.disconnect 0)
  publish : ∀ dup q r tit tid mid data, q ≤ 2 → tit ≤ 2 → data.length ≤ Gen.MaxPayloadLength →
    Sn (.publish dup q r tit tid mid data)
  register : ∀ tid mid name, name ≠ [] → name.length ≤ Gen.MaxPayloadLength → Sn (.register tid mid name)
  dup : ∀ p, Sn p → Sn (setDup p)
  mqConnect : ∀ f, ConnOk f → Mq f.toPkt
  mqPublish : ∀ dup q r mid topic data, q ≤ 2 → topic ≠ [] → hasWildcard topic = false →
    Mq (.publish dup q r mid topic data)
  mqSubscribe : ∀ mid dup topic q, topic ≠ [] → q ≤ 2 → Mq (.subscribe mid dup topic q)
  mqUnsubscribe : ∀ mid topic, topic ≠ [] → Mq (.unsubscribe mid topic)
  mqPuback : ∀ mid, Mq (.puback mid)
  mqPubrec : ∀ mid, Mq (.pubrec mid)
  mqPubrel : ∀ mid, Mq (.pubrel mid)
  mqPubcomp : ∀ mid, Mq (.pubcomp mid)
  mqPingreq : Mq .pingreq

/-- nothing asked: the sites of a property about the datagrams alone, or about the MQTT packets alone, are
    `{ Sites.top with … }` -/
theorem Sites.top : Sites (fun _ => True) (fun _ => True) := by constructor <;> intros <;> trivial

/-- invariant `WF`, permitted outputs `OutOk`, nothing counted -/
def stepFrame (c : Cfg) : Frame := { cfg := c, K := fun _ => KindOk Sn Mq, Sn := Sn, Mq := fun p => Mq p ∨ E p }

variable {Sn Mq E}

theorem outOk_of {c : Cfg} {o : Out} (h : (stepFrame Sn Mq E c).OutOk o) : OutOk Sn Mq E o := by
  cases o with
  | sn _ => obtain ⟨p, hp, _, e⟩ := h; exact ⟨p, hp, e⟩
  | mq _ => exact h
  | _ => trivial

theorem Step.of_fr {n : Nat} {g g' : Gw} (h : Fr (stepFrame Sn Mq E g.cfg) n g g') : Step Sn Mq E g g' := fun w => by
  obtain ⟨hI, new, e, hn, _⟩ := h ⟨rfl, trivial, trivial, w.1, w.2⟩
  exact ⟨⟨new, e, fun x hx => outOk_of (hn x hx)⟩, hI.buf, hI.txs⟩

theorem may_of_mq {c : Cfg} {n : Nat} {p : MqPkt} (h : Mq p) : (stepFrame Sn Mq E c).May n p := .free (.inl h)

theorem connOk_of_auth {f : ConnFields} (h : f.wt = [] ∧ f.wq = 0) (hw : f.will = false) : ConnOk f :=
  ⟨by rw [h.1, hw]; rfl, by rw [h.2]; decide⟩

theorem Sites.connect (S : Sites Sn Mq) (c : Cfg) {R : List (Bytes × UInt16)} {f : ConnFields} (h : ConnOk f) :
    (stepFrame Sn Mq E c).K R (.connect .awaitingConnack f) ∧ (stepFrame Sn Mq E c).May 0 f.toPkt :=
  ⟨h, may_of_mq (S.mqConnect f h)⟩

theorem authd_of (S : Sites Sn Mq) (c : Cfg) {f : ConnFields} (h : f.wt = [] ∧ f.wq = 0) :
    (stepFrame Sn Mq E c).Authd R f :=
  ⟨fun hw => ⟨h.1, h.2, hw⟩, fun hw => S.connect c (connOk_of_auth h hw)⟩

theorem Sites.mqAck (S : Sites Sn Mq) {p : MqPkt} (h : IsAck p) : Mq p := h.casesOn S.mqPuback S.mqPubrec S.mqPubcomp

theorem Sites.frame (S : Sites Sn Mq) (c : Cfg) : (stepFrame Sn Mq E c).Sites where
  toSnSites := ⟨S.connack, S.willtopicreq, S.willmsgreq, S.regack, S.suback, S.puback, S.pubrec, S.pubcomp, S.pubrel,
    S.unsuback, S.pingresp, S.disconnect0, S.publish, S.register⟩
  kClientPub1 := fun _ => trivial
  kSubscribe := fun _ => trivial
  bpNew := fun _ _ _ hs => ⟨(fun _ e => nomatch e), (fun _ e => nomatch e), hs⟩
  bpSn := fun _ _ hK hp _ => ⟨fun _ e => by cases e; exact hp, (fun _ e => nomatch e), hK.2.2⟩
  bpAck := fun _ _ ha hK => ⟨(fun _ e => nomatch e), fun _ e => by cases e; exact S.mqAck ha, hK.2.2⟩
  bpSnp := fun hK => hK.2.2 _ rfl
  retrySn := fun hK _ => ⟨S.dup _ (hK.1 _ rfl), fun _ e => by cases e; exact S.dup _ (hK.1 _ rfl), (fun _ e => nomatch e), hK.2.2⟩
  retryMq := fun hK _ => ⟨may_of_mq (hK.2.1 _ rfl), hK⟩
  mqAck := fun _ ha => may_of_mq (S.mqAck ha)
  mqPingreq := may_of_mq S.mqPingreq
  mqSubscribe := fun _ _ _ _ ht hq => may_of_mq (S.mqSubscribe _ _ _ _ ht hq)
  mqUnsubscribe := fun _ _ ht => may_of_mq (S.mqUnsubscribe _ _ ht)
  mqPubrel := fun _ => may_of_mq (S.mqPubrel _)
  -- an empty will topic withdraws the will; any other is the will topic of a CONNECT that has one
  willTopic := fun f q r topic hK hq => iteInduction (motive := ConnOk)
    (fun _ => connOk_of_auth ⟨hK.1, hK.2.1⟩ rfl)
    fun he => ⟨hK.2.2.trans (congrArg not (eq_false_of_ne_true he)).symm, hq⟩
  willMsg := fun _ _ hK => S.connect c (iteInduction (motive := ConnOk) (fun _ => hK) fun _ => hK)

theorem Sites.conn (S : Sites Sn Mq) (c : Cfg) : (stepFrame Sn Mq E c).ConnSites where
  new := fun _ _ _ _ _ => ⟨rfl, rfl⟩
  noAuth := fun _ _ _ _ _ => authd_of S c ⟨rfl, rfl⟩

/-- every packet the decoder hands over is admitted, a plain DISCONNECT where the extra permission `E` covers its
    forwarding -/
theorem Sites.admits (S : Sites Sn Mq) (c : Cfg) (p : Pkt) (hp : PktIn p) (hd : p = .disconnect 0 → E .disconnect) :
    (stepFrame Sn Mq E c).Admits p where
  auth := fun _ _ _ _ _ _ _ hK => authd_of S c hK
  publish := fun _ _ _ _ _ _ _ e _ ht hw => may_of_mq (S.mqPublish _ _ _ _ _ _ (mqQos_le (by subst e; exact hp)) ht hw)
  mqDisconnect := fun e => .free (.inr (hd e))
  toAdmitsSt := .of_true (fun _ => trivial) fun _ => trivial

/-! ### `Step` of one call of each model function (from `stepFrame`) -/

theorem Step.snSend (g : Gw) (p : Pkt) (tx : Option Nat) (h : Sn p) : Step Sn Mq E g (g.snSend p tx) :=
  .of_fr (Fr.snSend g p tx h)
theorem Step.snSendNow (g : Gw) (p : Pkt) (h : Sn p) : Step Sn Mq E g (g.snSendNow p) :=
  .of_fr (Fr.snSendNow g p h trivial)
theorem Step.mqttSend (g : Gw) (p : MqPkt) (h : Mq p) : Step Sn Mq E g (g.mqttSend p) :=
  .of_fr (Fr.mqttSend (n := 0) g p (may_of_mq h))
theorem Step.startSleepPinger (g : Gw) (d : UInt16) : Step Sn Mq E g (g.startSleepPinger d) :=
  .of_fr (Fr.of_eq rfl rfl rfl rfl rfl rfl)
theorem Step.armSleepPinger (g : Gw) (d : UInt16) : Step Sn Mq E g (g.armSleepPinger d) := .of_fr (Fr.armSleepPinger g d)
theorem Step.pingBroker (S : Sites Sn Mq) (g : Gw) : Step Sn Mq E g g.pingBroker := .of_fr (Fr.pingBroker (S.frame _) g)
theorem Step.keepBrokerAlive (S : Sites Sn Mq) (g : Gw) : Step Sn Mq E g g.keepBrokerAlive :=
  .of_fr (Fr.keepBrokerAlive (S.frame _) g)
theorem Step.retryExpire (S : Sites Sn Mq) (g : Gw) (t : Tx) (ht : t ∈ g.txs) :
    Step Sn Mq E g (g.retryExpire t) := .of_fr (Fr.retryExpire (S.frame _) g t ht)
theorem Step.handleConnect (S : Sites Sn Mq) (g : Gw) (will clean : Bool) (dur : UInt16) (cid : Bytes) :
    Step Sn Mq E g (g.handleConnect will clean dur cid) :=
  .of_fr (Fr.handleConnect (S.frame _).toSnSites (S.conn _) g will clean dur cid fun _ => trivial)
theorem Step.handleClientPublish (S : Sites Sn Mq) (g : Gw) (dup : Bool) (qos : UInt8) (retain : Bool) (tit : UInt8)
    (tid mid : UInt16) (data : Bytes) (hq : qos ≤ 3) :
    Step Sn Mq E g (g.handleClientPublish dup qos retain tit tid mid data) :=
  .of_fr (Fr.handleClientPublish (S.frame _) g dup qos retain tit tid mid data fun _ ht hw =>
    may_of_mq (S.mqPublish _ _ _ _ _ _ (mqQos_le hq) ht hw))
theorem Step.handleSubscribe (S : Sites Sn Mq) (g : Gw) (dup : Bool) (qos tit : UInt8) (mid tid : UInt16) (name : Bytes) :
    Step Sn Mq E g (g.handleSubscribe dup qos tit mid tid name) :=
  .of_fr (Fr.handleSubscribe (S.frame _) g dup qos tit mid tid name)
theorem Step.handleUnsubscribe (S : Sites Sn Mq) (g : Gw) (tit : UInt8) (mid tid : UInt16) (name : Bytes) :
    Step Sn Mq E g (g.handleUnsubscribe tit mid tid name) := .of_fr (Fr.handleUnsubscribe (S.frame _) g tit mid tid name)
theorem Step.handleBrokerPublish (S : Sites Sn Mq) (g : Gw) (dup : Bool) (qos : UInt8) (retain : Bool) (mid : UInt16)
    (topic payload : Bytes) : Step Sn Mq E g (g.handleBrokerPublish dup qos retain mid topic payload) :=
  .of_fr (Fr.handleBrokerPublish (S.frame _) g dup qos retain mid topic payload)
theorem Step.advance (S : Sites Sn Mq) (t : Nat) : ∀ (fuel : Nat) (g : Gw), Step Sn Mq E g (advance fuel g t) :=
  fun fuel g => .of_fr (Fr.advance (S.frame _) t fuel g)
theorem Step.sample (g : Gw) : Step Sn Mq E g g.sample := .of_fr (Fr.sample g)

theorem Step.ite {g a b : Gw} {c : Prop} [Decidable c] (ha : c → Step Sn Mq E g a) (hb : ¬c → Step Sn Mq E g b) :
    Step Sn Mq E g (if c then a else b) := by
  split
  · exact ha ‹_›
  · exact hb ‹_›

theorem Step.both {g a b : Gw} {c : Prop} [Decidable c] (ha : Step Sn Mq E g a) (hb : Step Sn Mq E g b) :
    Step Sn Mq E g (if c then a else b) := by
  split <;> assumption

theorem kind_of_lookup {g : Gw} {mid : UInt16} {t : Tx} (h : g.lookupById mid = some t) (w : WF Sn Mq g) :
    KindOk Sn Mq t.kind := w.2 t (lookupById_mem h)

end Bisquitt.Gw
