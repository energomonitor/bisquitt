/-
  Every `Unpack` of the model, and with them `decode`, either rejects its input or returns
  exactly what the positional reader `Spec.refFields` reads from it; in particular it never
  reaches a Go bounds-check failure.
-/
import Bisquitt.Lemmas.WireYields
import Bisquitt.Lemmas.Assoc

namespace Bisquitt
open Gen Spec

def Reads (t : UInt8) (f : Bytes → Res Pkt) : Prop :=
  ∀ buf, (f buf).Yields fun p => refFields t buf = some p

/- Each proof below has one shape: behind a length guard every read is in range (`omega`
   from the guard), so the `do` block rewrites to `.ok` of the positional reading. -/

theorem reads_advertise : Reads tADVERTISE unpackAdvertise := fun buf => by
  unfold unpackAdvertise; rw [advertiseVarPartLength_toNat]; refine .guard fun _ => ?_
  simp (disch := omega) only [getB_b8, get16_b16, Res.ok_bind]
  exact .ok rfl

theorem reads_searchGw : Reads tSEARCHGW unpackSearchGw := fun buf => by
  unfold unpackSearchGw; rw [searchGwVarPartLength_toNat]; refine .guard fun _ => ?_
  simp (disch := omega) only [getB_b8, Res.ok_bind]
  exact .ok rfl

theorem reads_gwInfo : Reads tGWINFO unpackGwInfo := fun buf => by
  unfold unpackGwInfo; rw [gwInfoHeaderLength_toNat]; refine .guard fun _ => ?_
  simp (disch := omega) only [getB_b8, sliceFrom_ok, Res.ok_bind]
  exact .ok rfl

theorem reads_auth : Reads tAUTH unpackAuth := fun buf => by
  unfold unpackAuth; refine .guard fun _ => ?_
  simp (disch := omega) only [getB_b8, Res.ok_bind]
  refine .guard fun _ => ?_
  simp (disch := omega) only [slice_ok, sliceFrom_ok, Res.ok_bind, Nat.add_sub_cancel_left]
  exact .ok rfl

theorem reads_connect : Reads tCONNECT unpackConnect := fun buf => by
  unfold unpackConnect; rw [connectHeaderLength_toNat]; refine .guard fun _ => ?_
  simp (disch := omega) only [getB_b8, Res.ok_bind]
  refine .guard fun _ => ?_
  simp (disch := omega) only [get16_b16, sliceFrom_ok, Res.ok_bind]
  exact .ok rfl

theorem reads_connack : Reads tCONNACK unpackConnack := fun buf => by
  unfold unpackConnack; rw [connackVarPartLength_toNat]; refine .guard fun _ => ?_
  simp (disch := omega) only [getB_b8, Res.ok_bind]
  exact .ok rfl

theorem reads_willTopicReq : Reads tWILLTOPICREQ unpackWillTopicReq := fun _ => .guard fun _ => .ok rfl

theorem reads_willTopicLike {c : UInt8} {mk : UInt8 → Bool → Bytes → Pkt}
    (hc : ∀ b, refFields c b = some (mk (flagQos (b8 b 0)) (flagSet (b8 b 0) 0x10) (b.drop 1))) :
    Reads c (unpackWillTopicLike mk) := fun buf =>
  match buf with
  | [] => .ok (hc _)
  | [_] => .err
  | _ :: _ :: _ => .ok (hc _)

theorem reads_willMsgReq : Reads tWILLMSGREQ unpackWillMsgReq := fun _ => .guard fun _ => .ok rfl

theorem reads_willMsg : Reads tWILLMSG unpackWillMsg := fun _ => .ok rfl

theorem reads_register : Reads tREGISTER unpackRegister := fun buf => by
  unfold unpackRegister; rw [registerHeaderLength_toNat]; refine .guard fun _ => ?_
  simp (disch := omega) only [get16_b16, sliceFrom_ok, Res.ok_bind]
  exact .ok rfl

theorem reads_regack : Reads tREGACK unpackRegack := fun buf => by
  unfold unpackRegack; rw [regackVarPartLength_toNat]; refine .guard fun _ => ?_
  simp (disch := omega) only [getB_b8, get16_b16, Res.ok_bind]
  exact .ok rfl

theorem reads_publish : Reads tPUBLISH unpackPublish := fun buf => by
  unfold unpackPublish; rw [publishHeaderLength_toNat]; refine .guard fun _ => ?_
  simp (disch := omega) only [getB_b8, get16_b16, sliceFrom_ok, Res.ok_bind]
  exact .ok rfl

theorem reads_puback : Reads tPUBACK unpackPuback := fun buf => by
  unfold unpackPuback; rw [pubackVarPartLength_toNat]; refine .guard fun _ => ?_
  simp (disch := omega) only [getB_b8, get16_b16, Res.ok_bind]
  exact .ok rfl

theorem reads_msgIdOnly {c : UInt8} {mk : UInt16 → Pkt} {n : UInt16} (hn : 2 ≤ n.toNat)
    (hc : ∀ b, refFields c b = some (mk (b16 b 0))) : Reads c (unpackMsgIdOnly mk n) := fun buf => by
  unfold unpackMsgIdOnly; refine .guard fun _ => ?_
  simp (disch := omega) only [get16_b16, Res.ok_bind]
  exact .ok (hc _)

theorem reads_suback : Reads tSUBACK unpackSuback := fun buf => by
  unfold unpackSuback; rw [subackVarPartLength_toNat]; refine .guard fun _ => ?_
  simp (disch := omega) only [getB_b8, get16_b16, Res.ok_bind]
  exact .ok rfl

theorem reads_pingreq : Reads tPINGREQ unpackPingreq := fun _ => .ok rfl

theorem reads_pingresp : Reads tPINGRESP unpackPingresp := fun _ => .guard fun _ => .ok rfl

theorem reads_disconnect : Reads tDISCONNECT unpackDisconnect := fun buf => by
  unfold unpackDisconnect; rw [disconnectDurationLength_toNat]; split
  · simp (disch := omega) only [get16_b16, Res.ok_bind]
    exact .ok rfl
  · split
    · next h => cases List.length_eq_zero_iff.mp h; exact .ok rfl
    · exact .err

theorem reads_rcOnly {c : UInt8} {mk : UInt8 → Pkt} {n : UInt16} (hn : 1 ≤ n.toNat)
    (hc : ∀ b, refFields c b = some (mk (b8 b 0))) : Reads c (unpackRcOnly mk n) := fun buf => by
  unfold unpackRcOnly; refine .guard fun _ => ?_
  simp (disch := omega) only [getB_b8, Res.ok_bind]
  exact .ok (hc _)

theorem reads_willMsgUpd : Reads tWILLMSGUPD unpackWillMsgUpd := fun _ => .ok rfl

/-- `Subscribe.Unpack` and `Unsubscribe.Unpack` are one function up to the struct they fill:
    flags, message ID, then a topic name (`TIT_STRING`) or exactly two bytes of topic ID.  The numerals are what the
    generated constants (header lengths, `flagsTopicIDTypeBits`, the TIT codes) reduce to: the two `_eq` lemmas below
    hold by `rfl` for that reason, and fail there if a constant changes. -/
def unpackTopicReq (mk : UInt8 → UInt8 → UInt16 → UInt16 → Bytes → Pkt) (buf : Bytes) : Res Pkt :=
  if buf.length ≤ 3 then .err else do
    let f ← getB buf 0
    let m ← get16 buf 1
    if f &&& 3 = 0 then do
      let n ← sliceFrom buf 3
      pure (mk f (f &&& 3) m 0 n)
    else if f &&& 3 = 1 ∨ f &&& 3 = 2 then
      if buf.length ≠ 5 then .err else do
        let t ← get16 buf 3
        pure (mk f (f &&& 3) m t [])
    else .err

theorem unpackSubscribe_eq : unpackSubscribe =
    unpackTopicReq fun f => .subscribe (hasBit f flagsDUPBit) (qosOf f) := rfl
theorem unpackUnsubscribe_eq : unpackUnsubscribe = unpackTopicReq fun _ => .unsubscribe := rfl

theorem reads_topicReq {c : UInt8} {mk : UInt8 → UInt8 → UInt16 → UInt16 → Bytes → Pkt}
    (hc : ∀ b, refFields c b =
      if b8 b 0 &&& 3 = 0 then some (mk (b8 b 0) 0 (b16 b 1) 0 (b.drop 3))
      else some (mk (b8 b 0) (b8 b 0 &&& 3) (b16 b 1) (b16 b 3) [])) :
    Reads c (unpackTopicReq mk) := fun buf => by
  unfold unpackTopicReq; refine .guard fun _ => ?_
  rw [getB_b8 (by omega), get16_b16 (i := 1) (by omega)]
  simp only [Res.ok_bind]
  by_cases h0 : b8 buf 0 &&& 3 = 0
  · rw [if_pos h0, sliceFrom_ok (by omega)]
    exact .ok (by rw [hc, if_pos h0, h0])
  rw [if_neg h0]; split
  · refine .guard fun _ => ?_
    rw [get16_b16 (by omega)]
    exact .ok (by rw [hc, if_neg h0])
  · exact .err

theorem reads_subscribe : Reads tSUBSCRIBE unpackSubscribe :=
  unpackSubscribe_eq ▸ reads_topicReq fun _ => rfl
theorem reads_unsubscribe : Reads tUNSUBSCRIBE unpackUnsubscribe :=
  unpackUnsubscribe_eq ▸ reads_topicReq fun _ => rfl

/-- one `reads_*` per row, in the order of `unpackTable` -/
theorem unpackTable_reads : ∀ e ∈ unpackTable, Reads e.1 e.2 := by
  simp only [unpackTable, List.forall_mem_cons, List.not_mem_nil, false_imp_iff, implies_true, and_true]
  exact ⟨reads_advertise, reads_searchGw, reads_gwInfo, reads_auth, reads_connect, reads_connack,
    reads_willTopicReq, reads_willTopicLike fun _ => rfl, reads_willMsgReq, reads_willMsg,
    reads_register, reads_regack, reads_publish, reads_puback,
    reads_msgIdOnly (by decide) fun _ => rfl, reads_msgIdOnly (by decide) fun _ => rfl,
    reads_msgIdOnly (by decide) fun _ => rfl, reads_subscribe, reads_suback, reads_unsubscribe,
    reads_msgIdOnly (by decide) fun _ => rfl, reads_pingreq, reads_pingresp, reads_disconnect,
    reads_willTopicLike fun _ => rfl, reads_rcOnly (by decide) fun _ => rfl, reads_willMsgUpd,
    reads_rcOnly (by decide) fun _ => rfl⟩

theorem unpackBody_reads (t : UInt8) : Reads t (unpackBody t) := fun buf => by
  unfold unpackBody; split
  · next f hf => exact unpackTable_reads (t, f) (mem_of_lookup_eq_some hf) buf
  · exact .err

/-! the dispatch of `NewPacketWithHeader`, evaluated per type code, one row per type (the round trip of
    `Lemmas/WireBody.lean` rewrites with the rows whose unpacker it treats by a lemma: DISCONNECT, the two WILLTOPICs,
    SUBSCRIBE, UNSUBSCRIBE).
    `by rfl`: Lean would evaluate the lookup once more for a term `rfl`, to see whether `dsimp` may use the theorem. -/
theorem ub_advertise (b : Bytes) : unpackBody tADVERTISE b = unpackAdvertise b := by rfl
theorem ub_searchgw (b : Bytes) : unpackBody tSEARCHGW b = unpackSearchGw b := by rfl
theorem ub_gwinfo (b : Bytes) : unpackBody tGWINFO b = unpackGwInfo b := by rfl
theorem ub_auth (b : Bytes) : unpackBody tAUTH b = unpackAuth b := by rfl
theorem ub_connect (b : Bytes) : unpackBody tCONNECT b = unpackConnect b := by rfl
theorem ub_connack (b : Bytes) : unpackBody tCONNACK b = unpackConnack b := by rfl
theorem ub_willtopicreq (b : Bytes) : unpackBody tWILLTOPICREQ b = unpackWillTopicReq b := by rfl
theorem ub_willtopic (b : Bytes) : unpackBody tWILLTOPIC b = unpackWillTopicLike .willtopic b := by rfl
theorem ub_willmsgreq (b : Bytes) : unpackBody tWILLMSGREQ b = unpackWillMsgReq b := by rfl
theorem ub_willmsg (b : Bytes) : unpackBody tWILLMSG b = unpackWillMsg b := by rfl
theorem ub_register (b : Bytes) : unpackBody tREGISTER b = unpackRegister b := by rfl
theorem ub_regack (b : Bytes) : unpackBody tREGACK b = unpackRegack b := by rfl
theorem ub_publish (b : Bytes) : unpackBody tPUBLISH b = unpackPublish b := by rfl
theorem ub_puback (b : Bytes) : unpackBody tPUBACK b = unpackPuback b := by rfl
theorem ub_pubcomp (b : Bytes) : unpackBody tPUBCOMP b = unpackMsgIdOnly .pubcomp pubcompVarPartLength b := by rfl
theorem ub_pubrec (b : Bytes) : unpackBody tPUBREC b = unpackMsgIdOnly .pubrec pubrecVarPartLength b := by rfl
theorem ub_pubrel (b : Bytes) : unpackBody tPUBREL b = unpackMsgIdOnly .pubrel pubrelVarPartLength b := by rfl
theorem ub_subscribe (b : Bytes) : unpackBody tSUBSCRIBE b = unpackSubscribe b := by rfl
theorem ub_suback (b : Bytes) : unpackBody tSUBACK b = unpackSuback b := by rfl
theorem ub_unsubscribe (b : Bytes) : unpackBody tUNSUBSCRIBE b = unpackUnsubscribe b := by rfl
theorem ub_unsuback (b : Bytes) : unpackBody tUNSUBACK b = unpackMsgIdOnly .unsuback unsubackVarPartLength b := by rfl
theorem ub_pingreq (b : Bytes) : unpackBody tPINGREQ b = unpackPingreq b := by rfl
theorem ub_pingresp (b : Bytes) : unpackBody tPINGRESP b = unpackPingresp b := by rfl
theorem ub_disconnect (b : Bytes) : unpackBody tDISCONNECT b = unpackDisconnect b := by rfl
theorem ub_willtopicupd (b : Bytes) : unpackBody tWILLTOPICUPD b = unpackWillTopicLike .willtopicupd b := by rfl
theorem ub_willtopicresp (b : Bytes) :
    unpackBody tWILLTOPICRESP b = unpackRcOnly .willtopicresp willTopicRespVarPartLength b := by rfl
theorem ub_willmsgupd (b : Bytes) : unpackBody tWILLMSGUPD b = unpackWillMsgUpd b := by rfl
theorem ub_willmsgresp (b : Bytes) :
    unpackBody tWILLMSGRESP b = unpackRcOnly .willmsgresp willMsgRespVarPartLength b := by rfl

theorem headerUnpack_reads (bs : Bytes) : (Header.unpack bs).Yields fun h =>
    h.headerLength.toNat = refHeaderLen bs ∧ refHeaderLen bs ≤ bs.length ∧ h.pktType = refType bs := by
  unfold Header.unpack; refine .guard fun _ => ?_
  rw [getB_b8 (i := 0) (by omega), Res.ok_bind]
  by_cases h : b8 bs 0 = longPacketFlag
  · have e : refHeaderLen bs = 4 := if_pos h
    rw [if_pos h, longHeaderLength_toNat]; refine .guard fun _ => ?_
    simp (disch := omega) only [getB_b8, get16_b16, Res.ok_bind]
    exact .ok ⟨e.symm, by omega, by rw [refType, e]; rfl⟩
  · have e : refHeaderLen bs = 2 := if_neg h
    rw [if_neg h, getB_b8 (i := 1) (by omega)]
    exact .ok ⟨e.symm, by omega, by rw [refType, e]; rfl⟩

theorem decode_reads (bs : Bytes) : (decode bs).Yields fun hp => refParse bs = some hp.2 := by
  unfold decode refParse refBody
  refine (headerUnpack_reads bs).bind fun h ⟨hl, hle, ht⟩ => ?_
  rw [sliceFrom_ok (hl ▸ hle), hl, ht]
  exact (unpackBody_reads _ _).bind fun p hp => .ok hp

end Bisquitt
