/-
  Association lists in which the first binding of a key is the live one (how the model renders Go
  maps): `List.lookup` after consing and after filtering a key out, what a found binding and a bound
  key are, and two facts about folds over lists of keys.
-/
import Bisquitt.Model.Bytes

namespace Bisquitt

-- core reaches these only after failing through the order classes, anew in every declaration that compares
-- `UInt8`, `UInt16` or `Bytes` keys (`ReflBEq`: for `List.lookup_cons_self`)
instance : LawfulBEq UInt8 := instLawfulBEq
instance : LawfulBEq UInt16 := instLawfulBEq
instance : ReflBEq UInt16 := LawfulBEq.toReflBEq
instance : ReflBEq Bytes := LawfulBEq.toReflBEq

-- `List.lookup` compares keys with `BEq`, the statements below with `=` (`DecidableEq`); `LawfulBEq` reconciles them
variable {α β : Type} [BEq α] [LawfulBEq α]

theorem lookup_cons_ite [DecidableEq α] (k a : α) (v : β) (l : List (α × β)) :
    ((k, v) :: l).lookup a = if a = k then some v else l.lookup a := by
  rw [List.lookup_cons]
  split <;> rename_i h
  · rw [if_pos (eq_of_beq h)]
  · rw [if_neg (ne_of_beq_false h)]

section
variable {a k : α} {b v : β} {l : List (α × β)}

theorem lookup_cons_some : ((a, b) :: l).lookup k = some v ↔ (k = a ∧ v = b) ∨ (k ≠ a ∧ l.lookup k = some v) := by
  rw [List.lookup_cons]
  cases h : k == a
  · simp [ne_of_beq_false h]
  · simp [eq_of_beq h, eq_comm]

theorem lookup_cons_fresh (b : β) (h : l.lookup a = none) (k : α) (v : β) :
    ((a, b) :: l).lookup k = some v ↔ l.lookup k = some v ∨ (k = a ∧ v = b) := by
  rw [lookup_cons_some, or_comm]
  refine or_congr_left (and_iff_right_of_imp fun hl e => ?_)
  rw [e, h] at hl
  cases hl

theorem forall_lookup_cons {P : α → β → Prop} (h : ∀ k v, l.lookup k = some v → P k v) (hp : P a b) :
    ∀ k v, ((a, b) :: l).lookup k = some v → P k v := by
  intro k v hl
  rcases lookup_cons_some.mp hl with ⟨rfl, rfl⟩ | ⟨_, hl⟩
  · exact hp
  · exact h k v hl

end

theorem lookup_filter_ne [DecidableEq α] (l : List (α × β)) (a b : α) :
    (l.filter (·.1 != a)).lookup b = if b = a then none else l.lookup b := by
  induction l with
  | nil => simp
  | cons x xs ih =>
    obtain ⟨k, v⟩ := x
    rw [List.filter_cons, lookup_cons_ite]
    by_cases hk : k = a
    · subst hk
      rw [if_neg (by simp), ih]
      split <;> rfl
    · rw [if_pos (by simpa using hk), lookup_cons_ite, ih]
      by_cases hb : b = k
      · simp [hb, hk]
      · simp [hb]

theorem mem_of_lookup_eq_some {l : List (α × β)} {a : α} {b : β} (h : l.lookup a = some b) : (a, b) ∈ l := by
  obtain ⟨l₁, l₂, rfl, -⟩ := List.lookup_eq_some_iff.mp h
  exact List.mem_append_right _ List.mem_cons_self

theorem lookup_isSome_iff_mem_keys (l : List (α × β)) (a : α) : (l.lookup a).isSome ↔ a ∈ l.map (·.1) := by
  rw [List.lookup_isSome_iff, List.mem_map]
  constructor
  · rintro ⟨p, hp, h⟩; exact ⟨p, hp, (eq_of_beq h).symm⟩
  · rintro ⟨p, hp, rfl⟩; exact ⟨p, hp, beq_self_eq_true _⟩

/-- A fold of keyed writes, read at key `q`: when the step for key `k` overwrites what `get` reads
    with `v` if `k` is `q` (and `P`), and leaves it alone otherwise, then the fold reads `v` if `q`
    is among the keys (and `P`), and the initial value otherwise. -/
theorem foldl_read {σ κ ρ : Type} [DecidableEq κ] (f : σ → κ → σ) (get : σ → ρ) (q : κ) (P : Prop) [Decidable P]
    (v : ρ) (step : ∀ s k, get (f s k) = if q = k ∧ P then v else get s) :
    ∀ (ks : List κ) (s : σ), get (ks.foldl f s) = if q ∈ ks ∧ P then v else get s := by
  intro ks
  induction ks with
  | nil => intro s; simp
  | cons k ks ih =>
    intro s
    rw [List.foldl_cons, ih, step]
    by_cases h : q = k ∧ P
    · rw [if_pos h, ite_self, if_pos ⟨h.1 ▸ List.mem_cons_self, h.2⟩]
    · rw [if_neg h]
      exact ite_congr (propext ⟨fun ⟨hm, hP⟩ => ⟨List.mem_cons_of_mem _ hm, hP⟩,
        fun ⟨hm, hP⟩ => ⟨(List.mem_cons.mp hm).resolve_left fun e => h ⟨e, hP⟩, hP⟩⟩) (fun _ => rfl) (fun _ => rfl)

theorem foldlM_eq_none_of_mem {σ κ : Type} (f : σ → κ → Option σ) (bad : κ) (hbad : ∀ s, f s bad = none) :
    ∀ (ks : List κ), bad ∈ ks → ∀ s, ks.foldlM f s = none := by
  intro ks
  induction ks with
  | nil => intro h; cases h
  | cons k ks ih =>
    intro h s
    rw [List.foldlM_cons]
    rcases List.mem_cons.mp h with rfl | h
    · rw [hbad]; rfl
    · cases f s k with
      | none => rfl
      | some s' => exact ih h s'

end Bisquitt
